/-
Lengths and values of the big-endian encodings, slices, patches and `readAt` of `Basic/Fault.lean`; at the end the
facts about lists in general that the library needs and core does not have.
-/
import HbsLms.Basic.Fault

namespace Bytes

@[simp] theorem be_length (k v : Nat) : (be k v).length = k := by
  induction k with
  | zero => rfl
  | succ k ih => simp [be, ih]

@[simp] theorem u16be_length (v : Nat) : (u16be v).length = 2 := be_length 2 v
@[simp] theorem u32be_length (v : Nat) : (u32be v).length = 4 := be_length 4 v
@[simp] theorem u64be_length (v : Nat) : (u64be v).length = 8 := be_length 8 v

theorem foldl_be (k v a : Nat) :
    (be k v).foldl (fun a x => a * 256 + x.toNat) a = a * 256 ^ k + v % 256 ^ k := by
  induction k generalizing a with
  | zero => simp [be, Nat.mod_one]
  | succ k ih =>
    have hb : (UInt8.ofNat (v / 256 ^ k % 256)).toNat = v / 256 ^ k % 256 := by
      rw [UInt8.toNat_ofNat']; omega
    simp only [be, List.foldl_cons, ih, hb]
    rw [Nat.pow_succ, Nat.mod_mul (a := 256 ^ k), Nat.add_mul, Nat.mul_assoc, Nat.mul_comm 256,
      Nat.mul_comm (v / 256 ^ k % 256)]
    omega

theorem toNat_be (k v : Nat) : toNat (be k v) = v % 256 ^ k := by
  simpa [toNat] using foldl_be k v 0

theorem toNat_be_of_lt {k v : Nat} (h : v < 256 ^ k) : toNat (be k v) = v := by
  rw [toNat_be, Nat.mod_eq_of_lt h]

theorem toNat_u16be_of_lt {v : Nat} (h : v < 2 ^ 16) : toNat (u16be v) = v := toNat_be_of_lt (k := 2) h
theorem toNat_u32be_of_lt {v : Nat} (h : v < 2 ^ 32) : toNat (u32be v) = v := toNat_be_of_lt (k := 4) h
theorem toNat_u64be_of_lt {v : Nat} (h : v < 2 ^ 64) : toNat (u64be v) = v := toNat_be_of_lt (k := 8) h

theorem foldl_toNat_lt (b : Bytes) (a : Nat) :
    b.foldl (fun a x => a * 256 + x.toNat) a < (a + 1) * 256 ^ b.length := by
  induction b generalizing a with
  | nil => simp
  | cons x xs ih =>
    have hx := x.toNat_lt
    refine Nat.lt_of_lt_of_le (ih _) ?_
    rw [List.length_cons, Nat.pow_succ, Nat.mul_comm (256 ^ xs.length), ← Nat.mul_assoc]
    exact Nat.mul_le_mul_right _ (by show a * 256 + x.toNat + 1 ≤ (a + 1) * 256; omega)

theorem toNat_lt (b : Bytes) : toNat b < 256 ^ b.length := by simpa [toNat] using foldl_toNat_lt b 0

@[simp] theorem zeros_length (n : Nat) : (zeros n).length = n := List.length_replicate
theorem zeros_add (a b : Nat) : zeros (a + b) = zeros a ++ zeros b := List.replicate_append_replicate.symm

theorem slice_length {b : Bytes} {s l : Nat} (h : s + l ≤ b.length) : (slice b s l).length = l := by
  simp only [slice, List.length_take, List.length_drop]; omega

theorem slice_zero (b : Bytes) (l : Nat) : slice b 0 l = b.take l := rfl
theorem slice_drop (b : Bytes) (k s l : Nat) : slice (b.drop k) s l = slice b (k + s) l := by
  simp only [slice, List.drop_drop]
theorem slice_take (b : Bytes) {k s l : Nat} (h : s + l ≤ k) : slice (b.take k) s l = slice b s l := by
  simp only [slice, List.drop_take, List.take_take]; congr 1; omega
theorem slice_slice (b : Bytes) (s l : Nat) {s' l' : Nat} (h : s' + l' ≤ l) :
    slice (slice b s l) s' l' = slice b (s + s') l' := by
  rw [slice, slice, List.drop_take, List.take_take, List.drop_drop, slice]; congr 1; omega
theorem slice_append_left {a : Bytes} (e : Bytes) {s l : Nat} (h : s + l ≤ a.length) :
    slice (a ++ e) s l = slice a s l := by
  simp only [slice, List.drop_append, List.take_append, List.length_drop]
  rw [show l - (a.length - s) = 0 by omega]; simp
theorem slice_of_take_eq {d d' : Bytes} {L a l : Nat} (he : d'.take L = d.take L) (h : a + l ≤ L) :
    slice d' a l = slice d a l := by
  rw [← slice_take d' h, he, slice_take d h]
theorem slice_mid {pre b post : Bytes} {idx len : Nat} (hi : idx = pre.length) (hl : len = b.length) :
    slice (pre ++ b ++ post) idx len = b := by
  subst hi hl
  simp [slice, List.append_assoc]
theorem getElem?_slice (b : Bytes) (s len i : Nat) : (slice b s len)[i]? = if i < len then b[s + i]? else none := by
  simp only [slice, List.getElem?_take, List.getElem?_drop]

theorem patch_length {b : Bytes} {s : Nat} {v : Bytes} (h : s + v.length ≤ b.length) :
    (patch b s v).length = b.length := by
  simp only [patch, List.length_append, List.length_take, List.length_drop]; omega

theorem patch_mid {pre m post v : Bytes} {s : Nat} (hs : s = pre.length) (hm : v.length = m.length) :
    patch (pre ++ m ++ post) s v = pre ++ v ++ post := by
  subst hs
  simp [patch, List.append_assoc, hm]

theorem getElem?_patch (b : Bytes) (s : Nat) (v : Bytes) (i : Nat) (h : s + v.length ≤ b.length) :
    (patch b s v)[i]? =
      if i < s then b[i]? else if i < s + v.length then v[i - s]? else b[i]? := by
  unfold patch
  have hs : (List.take s b).length = s := by simp [List.length_take]; omega
  rw [List.append_assoc, List.getElem?_append, hs]
  split
  · simp [*]
  · rename_i h1
    rw [List.getElem?_append]
    split
    · rename_i h2
      rw [if_pos (by omega)]
    · rename_i h2
      rw [if_neg (by omega), List.getElem?_drop]
      congr 1; omega

theorem slice_patch_same (b : Bytes) (s : Nat) (v : Bytes) (h : s + v.length ≤ b.length) :
    slice (patch b s v) s v.length = v := by
  apply List.ext_getElem?
  intro i
  rw [getElem?_slice, getElem?_patch _ _ _ _ h]
  split
  · rw [if_neg (by omega), if_pos (by omega)]; congr 1; omega
  · rename_i h1
    exact (List.getElem?_eq_none (by omega)).symm

theorem slice_patch_disjoint (b : Bytes) (s : Nat) (v : Bytes) (s' len : Nat)
    (h : s + v.length ≤ b.length) (hd : s' + len ≤ s ∨ s + v.length ≤ s') :
    slice (patch b s v) s' len = slice b s' len := by
  apply List.ext_getElem?
  intro i
  rw [getElem?_slice, getElem?_slice, getElem?_patch _ _ _ _ h]
  split
  · rcases hd with hd | hd
    · rw [if_pos (by omega)]
    · rw [if_neg (by omega), if_neg (by omega)]
  · rfl

theorem flatten_length_of (n : Nat) (l : List Bytes) (h : ∀ y ∈ l, y.length = n) : l.flatten.length = n * l.length := by
  rw [List.length_flatten, List.map_eq_replicate_iff.mpr h, List.sum_replicate_nat, Nat.mul_comm]

theorem slice_flatten (n : Nat) : ∀ (l : List Bytes) (i : Nat) (hi : i < l.length), (∀ y ∈ l, y.length = n) →
    slice l.flatten (n * i) n = l[i] := by
  intro l
  induction l with
  | nil => intro i hi; simp at hi
  | cons a t ih =>
    intro i hi hall
    have ha : a.length = n := hall a (by simp)
    cases i with
    | zero =>
      simp [slice, List.flatten_cons, ha]
    | succ j =>
      have hj : j < t.length := by simpa using hi
      have := ih j hj (fun y hy => hall y (by simp [hy]))
      simp only [List.getElem_cons_succ]
      rw [← this]
      unfold slice
      rw [List.flatten_cons, Nat.mul_succ, Nat.add_comm, List.drop_append]
      have : List.drop (n + n * j) a = [] := List.drop_eq_nil_of_le (by omega)
      simp [ha, this]

end Bytes

theorem readAt_eq_some {src b : Bytes} {len idx : Nat} :
    readAt src len idx = some b ↔ idx + len ≤ src.length ∧ Bytes.slice src idx len = b := by
  unfold readAt; split <;> simp [*]

theorem readAt_inv {src : Bytes} {len idx : Nat} {b : Bytes} (h : readAt src len idx = some b) :
    idx + len ≤ src.length ∧ b = Bytes.slice src idx len ∧ b.length = len := by
  obtain ⟨hle, rfl⟩ := readAt_eq_some.1 h
  exact ⟨hle, rfl, Bytes.slice_length hle⟩

theorem readAt_of_le {src : Bytes} {len idx : Nat} (h : idx + len ≤ src.length) :
    readAt src len idx = some (Bytes.slice src idx len) := if_pos h

theorem readAt_mid {pre b post : Bytes} {len idx : Nat} (hi : idx = pre.length) (hl : len = b.length) :
    readAt (pre ++ b ++ post) len idx = some b := by
  rw [readAt_of_le (by simp only [List.length_append]; omega), Bytes.slice_mid hi hl]

theorem readAt_of_eq {data pre b post : Bytes} {len idx : Nat} (h : data = pre ++ b ++ post)
    (hi : idx = pre.length) (hl : len = b.length) : readAt data len idx = some b :=
  h ▸ readAt_mid hi hl

/-- a field of a serialised structure, located by what stands before and after it -/
theorem slice_of_eq {data pre b post : Bytes} {idx len : Nat} (h : data = pre ++ b ++ post) (hi : idx = pre.length)
    (hl : len = b.length) : Bytes.slice data idx len = b :=
  h ▸ Bytes.slice_mid hi hl

/-! Lists in general -/

namespace Lemmas

theorem getD_mem {α : Type} {l : List α} {i : Nat} {d : α} (hi : i < l.length) : l.getD i d ∈ l :=
  List.getElem_eq_getD d ▸ List.getElem_mem hi

theorem getD_some_getElem? {α : Type} {l : List (Option α)} {i : Nat} {b : α} (h : l.getD i none = some b) :
    l[i]? = some (some b) := by
  rw [List.getD_eq_getElem?_getD, Option.getD_eq_iff] at h
  exact h.resolve_right fun h => nomatch h.2

theorem map_range_getD_zipWith {α β γ : Type} (f : α → β → γ) (a : List α) (b : List β) (da : α) (db : β) (m : Nat)
    (ha : a.length = m) (hb : b.length = m) :
    (List.range m).map (fun i => f (a.getD i da) (b.getD i db)) = List.zipWith f a b := by
  apply List.ext_getElem
  · simp [ha, hb]
  · intro i h1 h2
    have hi : i < m := by simpa using h1
    simp [List.getD_eq_getElem?_getD, ha, hb, hi]

/-- A loop that threads a state and collects one value per step: if, under an invariant of the state, step `i` returns
`v i` and keeps the invariant, the loop returns `map v` and keeps it. The authentication-path loop of `lmsSign` has this
shape, with the cache as state. -/
theorem foldl_collect {σ α : Type} {Inv : σ → Prop} {f : Nat → σ → α × σ} {v : Nat → α} (m : Nat)
    (h : ∀ i, i < m → ∀ s, Inv s → (f i s).1 = v i ∧ Inv (f i s).2) {s : σ} (hs : Inv s) :
    ((List.range m).foldl (fun (acc : List α × σ) i =>
        let (x, s') := f i acc.2
        (acc.1 ++ [x], s')) ([], s)).1 = (List.range m).map v ∧
      Inv ((List.range m).foldl (fun (acc : List α × σ) i =>
        let (x, s') := f i acc.2
        (acc.1 ++ [x], s')) ([], s)).2 := by
  induction m with
  | zero => exact ⟨rfl, hs⟩
  | succ m ih =>
    obtain ⟨h1, h2⟩ := ih fun i hi => h i (Nat.lt_succ_of_lt hi)
    obtain ⟨h3, h4⟩ := h m (Nat.lt_succ_self m) _ h2
    rw [List.range_succ, List.foldl_append, List.map_append]
    refine ⟨?_, h4⟩
    show _ ++ [_] = _ ++ [v m]
    rw [h1, h3]

theorem ne_nil_of_sum_pos {hs : List Nat} (h : 0 < hs.sum) : hs ≠ [] := by
  rintro rfl
  exact Nat.lt_irrefl _ h

/-- Summing termwise: if element `i` of `l` costs at most what position `k + i` allows (`A`), and each element brings a
constant `c ≤ d` with it, then `l` costs at most what the positions `k, k + 1, …` allow together. -/
theorem sum_map_add_le_sum_range' {α : Type} (a : α → Nat) (A : Nat → Nat) (c d : Nat) (hcd : c ≤ d) :
    ∀ (l : List α) (k : Nat), (∀ i (h : i < l.length), a l[i] ≤ A (k + i)) →
      (l.map a).sum + l.length * c ≤ ((List.range' k l.length).map fun j => A j + d).sum := by
  intro l
  induction l with
  | nil => intro k _; simp
  | cons x l ih =>
    intro k h
    have h0 := h 0 (by simp)
    have ih' := ih (k + 1) (fun i hi => by
      have := h (i + 1) (by simp; omega)
      simpa [Nat.add_assoc, Nat.add_comm 1 i] using this)
    simp only [List.length_cons, List.range'_succ, List.map_cons, List.sum_cons, Nat.succ_mul]
    simp only [List.getElem_cons_zero, Nat.add_zero] at h0
    omega

end Lemmas
