/-
Build-time limits (`build.rs`, `constants.rs`): what `CompressedParameterSet::to` guarantees about an accepted
parameter list, why every compile-time capacity (`MAX_NUM_WINTERNITZ_CHAINS`, `MAX_TREE_HEIGHT`,
`MAX_LMS_SIGNATURE_LENGTH`, `MAX_HSS_SIGNED_PUBLIC_KEY_LENGTH`, `MAX_HSS_SIGNATURE_LENGTH`) suffices for it, and that
the default build allows whatever a valid one allows.
-/
import HbsLms.Lemmas.ParamSet
import HbsLms.Lemmas.Bytes

/-- `build.rs` accepts the configuration and every configured Winternitz value is one of 1, 2, 4, 8 (other values
make `get_num_winternitz_chains` panic at compile time, so no such library exists). It stands here and not beside
`Config.valid` in `Impl/Params.lean` because nothing in the library computes it: it is the hypothesis under which the
capacities are shown to suffice. -/
def Config.wellFormed (c : Config) : Bool :=
  c.valid && c.winternitz.all (fun w => w == 1 || w == 2 || w == 4 || w == 8)

namespace Lemmas

open Impl Generated

theorem wellFormed_valid {c : Config} (h : c.wellFormed = true) : c.valid = true := by
  simp only [Config.wellFormed, Bool.and_eq_true] at h; exact h.1

/-- `Config.valid` as propositions; 8 is `buildLevelLimit`, the largest level count `build.rs` accepts -/
structure ValidProps (c : Config) : Prop where
  levels_pos : 1 ≤ c.maxLevels
  levels_le : c.maxLevels ≤ 8
  heights_length : c.heights.length = c.maxLevels
  winternitz_length : c.winternitz.length = c.maxLevels

theorem valid_props {c : Config} (h : c.valid = true) : ValidProps c := by
  simp only [Config.valid, Bool.and_eq_true, beq_iff_eq, buildLevelLimit] at h
  obtain ⟨⟨⟨h1, h2⟩, h3⟩, h4⟩ := h
  exact ⟨of_decide_eq_true h2, of_decide_eq_true h1, h3, h4⟩

theorem withinLimits_iff {cfg : Config} {i : Nat} {p : HssParam} : cfg.withinLimits i p = true ↔
    i < cfg.maxLevels ∧ p.lms.h ≤ cfg.heights.getD i 0 ∧ cfg.winternitz.getD i 0 ≤ p.ots.w := by
  simp only [Config.withinLimits, Bool.and_eq_true, decide_eq_true_eq, ge_iff_le, and_assoc]

theorem wellFormed_mem {c : Config} (h : c.wellFormed = true) {w : Nat} (hw : w ∈ c.winternitz) :
    w ∈ [1, 2, 4, 8] := by
  simp only [Config.wellFormed, Bool.and_eq_true] at h
  simpa [or_assoc] using List.all_eq_true.mp h.2 w hw

theorem wellFormed_w {c : Config} (h : c.wellFormed = true) {i : Nat} (hi : i < c.maxLevels) :
    c.winternitz.getD i 0 ∈ [1, 2, 4, 8] :=
  wellFormed_mem h (getD_mem (by rw [(valid_props (wellFormed_valid h)).winternitz_length]; exact hi))

/-- `Config.minWinternitz` is a fold of `min`; build.rs writes `MIN_WINTERNITZ_PARAMETER` as `iter().min()` -/
theorem minWinternitz_least {c : Config} (hne : c.winternitz ≠ []) :
    c.minWinternitz ∈ c.winternitz ∧ ∀ w ∈ c.winternitz, c.minWinternitz ≤ w := by
  unfold Config.minWinternitz
  cases hw : c.winternitz with
  | nil => exact absurd hw hne
  | cons w0 ws => simpa using List.min?_eq_some_iff.mp (List.min?_cons' (x := w0) (xs := w0 :: ws))

theorem winternitz_ne_nil {c : Config} (h : c.valid = true) : c.winternitz ≠ [] := fun h0 => by
  have := (valid_props h).winternitz_length
  rw [h0] at this
  exact absurd this.symm (Nat.ne_of_gt (valid_props h).levels_pos)

theorem minWinternitz_mem {c : Config} (h : c.wellFormed = true) : c.minWinternitz ∈ [1, 2, 4, 8] :=
  wellFormed_mem h (minWinternitz_least (winternitz_ne_nil (wellFormed_valid h))).1

theorem minWinternitz_le {c : Config} (h : c.valid = true) {i : Nat} (hi : i < c.maxLevels) :
    c.minWinternitz ≤ c.winternitz.getD i 0 :=
  (minWinternitz_least (winternitz_ne_nil h)).2 _ (getD_mem (by rw [(valid_props h).winternitz_length]; exact hi))

theorem height_le_max {c : Config} (h : c.valid = true) {i : Nat} (hi : i < c.maxLevels) :
    c.heights.getD i 0 ≤ c.maxTreeHeight :=
  (List.max?_eq_some_iff.mp (List.max?_cons' (x := 0) (xs := c.heights))).2 _
    (List.mem_cons_of_mem _ (getD_mem (by rw [(valid_props h).heights_length]; exact hi)))

structure LevelOk (cfg : Config) (n i : Nat) (p : HssParam) : Prop where
  within : cfg.withinLimits i p = true
  ots : IsOtsRow n p.ots
  lms : IsLmsRow p.lms
  otsU32 : ∃ t, Params.lmotsFromU32 n t = some p.ots
  lmsU32 : ∃ t, Params.lmsFromU32 t = some p.lms

/-- a list `CompressedParameterSet::to` accepts -/
structure ParamsOk (cfg : Config) (n : Nat) (ps : List HssParam) : Prop where
  ne : ps ≠ []
  sigLen : hssSigLen n ps ≤ 65535
  level : ∀ i (h : i < ps.length), LevelOk cfg n i ps[i]

theorem ParamsOk.of_paramsOfBytes {cfg : Config} {n : Nat} {bs : Bytes} {ps : List HssParam}
    (h : paramsOfBytes cfg n bs = some ps) : ParamsOk cfg n ps := by
  obtain ⟨hd, hlim⟩ := paramsOfBytes_eq_some_iff.mp h
  refine ⟨hd.ne, of_decide_eq_true hd.sigLen, fun i hi => ?_⟩
  obtain ⟨b, _, hb⟩ := List.mem_map.1 (hd.bytes ▸ List.mem_map_of_mem (f := some) (List.getElem_mem hi))
  obtain ⟨hl, ho⟩ := decodeByte_some hb
  exact ⟨hlim i hi, ⟨_, ho⟩, ⟨_, hl⟩, ⟨_, ho⟩, ⟨_, hl⟩⟩

theorem lms_signature_length_mono {n n' p p' h h' : Nat} (hn : n ≤ n') (hp : p ≤ p') (hh : h ≤ h') :
    lms_signature_length n p h ≤ lms_signature_length n' p' h' := by
  unfold lms_signature_length lmots_signature_length
  have := Nat.mul_le_mul hn hp
  have := Nat.mul_le_mul hn hh
  omega

/-- signature length the configuration reserves for level `level` -/
def levelSigCap (c : Config) (level : Nat) : Nat :=
  lms_signature_length MAX_HASH_SIZE (chainsMaxHash (c.winternitz.getD level 0)) (c.heights.getD level 0)

/-- what follows from `LevelOk` for the capacities of a well-formed configuration; `ParamCaps` (Lemmas/SignTotal.lean)
keeps the three of them that `lmsSign` tests -/
structure LevelCaps (cfg : Config) (n i : Nat) (p : HssParam) : Prop where
  heightLevel : p.lms.h ≤ cfg.heights.getD i 0
  heightMax : cfg.heights.getD i 0 ≤ cfg.maxTreeHeight
  winternitzLevel : cfg.winternitz.getD i 0 ≤ p.ots.w
  winternitzMin : cfg.minWinternitz ≤ cfg.winternitz.getD i 0
  chains : p.ots.p ≤ cfg.maxChains
  sigLenLevel : lms_signature_length n p.ots.p p.lms.h ≤ levelSigCap cfg i
  sigLen : lms_signature_length n p.ots.p p.lms.h ≤ cfg.maxLmsSigLen

theorem LevelOk.caps {cfg : Config} {n i : Nat} {p : HssParam} (hok : LevelOk cfg n i p)
    (hwf : cfg.wellFormed = true) : LevelCaps cfg n i p := by
  obtain ⟨hi, hh, hwle⟩ := withinLimits_iff.mp hok.within
  have hmax := height_le_max (wellFormed_valid hwf) hi
  have hmin := minWinternitz_le (wellFormed_valid hwf) hi
  -- the row has at most the chains of any Winternitz value up to its own: that of this level, and the build's least
  have hp := (ots_row_props hok.ots).chains_le _ (wellFormed_w hwf hi) hwle
  have hc : p.ots.p ≤ cfg.maxChains :=
    (ots_row_props hok.ots).chains_le _ (minWinternitz_mem hwf) (Nat.le_trans hmin hwle)
  have hn : n ≤ MAX_HASH_SIZE := (ots_row_props hok.ots).n_le
  exact ⟨hh, hmax, hwle, hmin, hc, lms_signature_length_mono hn hp hh,
    lms_signature_length_mono hn hc (Nat.le_trans hh hmax)⟩

theorem ParamsOk.length_le {cfg : Config} {n : Nat} {ps : List HssParam} (hok : ParamsOk cfg n ps) :
    1 ≤ ps.length ∧ ps.length ≤ cfg.maxLevels := by
  have h1 : 1 ≤ ps.length := by
    cases ps with
    | nil => exact absurd rfl hok.ne
    | cons _ _ => simp
  have hw := (withinLimits_iff.mp (hok.level (ps.length - 1) (by omega)).within).1
  omega

/-- all rows of the list belong to the one hash length `n`, so what the table says of `n` is read off the first -/
theorem ParamsOk.exists_row {cfg : Config} {n : Nat} {ps : List HssParam} (hok : ParamsOk cfg n ps) :
    ∃ p, IsOtsRow n p :=
  ⟨_, (hok.level 0 (ParamsOk.length_le hok).1).ots⟩

theorem ParamsOk.hashLen {cfg : Config} {n : Nat} {ps : List HssParam} (hok : ParamsOk cfg n ps) :
    n = 16 ∨ n = 24 ∨ n = 32 :=
  let ⟨_, h⟩ := hok.exists_row
  (ots_row_props h).hashLen

theorem ParamsOk.n_le {cfg : Config} {n : Nat} {ps : List HssParam} (hok : ParamsOk cfg n ps) : n ≤ 32 :=
  let ⟨_, h⟩ := hok.exists_row
  (ots_row_props h).n_le

/-- 56 is `lms_public_key_length MAX_HASH_SIZE`, the public-key part of a signed public key -/
theorem maxHssSigLen_eq_sum (c : Config) : c.maxHssSigLen =
    4 + ((List.range' 1 (c.maxLevels - 1)).map fun level => levelSigCap c level + 56).sum + levelSigCap c 0 := by
  rw [List.sum_eq_foldl, List.foldl_map]
  simp only [Config.maxHssSigLen, List.range_eq_range', List.drop_range', Nat.zero_add, Nat.one_mul]
  rfl

theorem hssSigLen_eq_sum (n : Nat) (ps : List HssParam) : hssSigLen n ps =
    4 + (ps.map fun p => lms_signature_length n p.ots.p p.lms.h).sum + (ps.length - 1) * lms_public_key_length n := by
  unfold hssSigLen
  rw [← List.sum_eq_foldl]

theorem hssSigLen_le_max {cfg : Config} (hwf : cfg.wellFormed = true) {n : Nat} {ps : List HssParam}
    (hok : ParamsOk cfg n ps) : hssSigLen n ps ≤ cfg.maxHssSigLen := by
  obtain ⟨hL1, hLM⟩ := ParamsOk.length_le hok
  have hn : n ≤ 32 := hok.n_le
  rw [hssSigLen_eq_sum, maxHssSigLen_eq_sum]
  cases hps : ps with
  | nil => exact absurd hps hok.ne
  | cons p0 rest =>
    have hlen : ps.length = rest.length + 1 := by rw [hps]; simp
    have h0 : lms_signature_length n p0.ots.p p0.lms.h ≤ levelSigCap cfg 0 := by
      have := ((hok.level 0 (by omega)).caps hwf).sigLenLevel
      simpa [hps] using this
    have hrest := sum_map_add_le_sum_range' (fun p => lms_signature_length n p.ots.p p.lms.h) (levelSigCap cfg)
      (lms_public_key_length n) 56 (by simp [lms_public_key_length]; omega) rest 1
      (fun i hi => by
        have := ((hok.level (i + 1) (by omega)).caps hwf).sigLenLevel
        simpa [hps, Nat.add_comm 1 i] using this)
    have hsplit : List.range' 1 (cfg.maxLevels - 1) =
        List.range' 1 rest.length ++ List.range' (1 + rest.length) (cfg.maxLevels - 1 - rest.length) := by
      rw [List.range'_append_1]; congr; omega
    rw [hsplit, List.map_append, List.sum_append]
    simp only [List.map_cons, List.sum_cons, List.length_cons, Nat.add_sub_cancel]
    omega

/-- The build defaults (`build.rs`), written as literals so that this fails when the regenerated defaults move. -/
theorem default_maxLevels : Config.default.maxLevels = 8 := by decide

theorem default_levels : ∀ l, l < 8 →
    Config.default.heights.getD l 0 = 25 ∧ Config.default.winternitz.getD l 0 = 1 := by decide

theorem withinLimits_default {cfg : Config} (hv : cfg.valid = true) {n level : Nat} {p : HssParam}
    (ho : IsOtsRow n p.ots) (hl : IsLmsRow p.lms) (h : cfg.withinLimits level p = true) :
    Config.default.withinLimits level p = true := by
  have hlev : level < 8 := Nat.lt_of_lt_of_le (withinLimits_iff.mp h).1 (valid_props hv).levels_le
  obtain ⟨hh, hw⟩ := default_levels level hlev
  rw [withinLimits_iff, hh, hw, default_maxLevels]
  -- the default height 25 is that of the tallest tree in the table, the default Winternitz value 1 the smallest
  exact ⟨hlev, (lms_row_props hl).h_le, FastVerify.w_pos (ots_row_props ho).good⟩

theorem fitsBuild_default {cfg : Config} (hv : cfg.valid = true) {n : Nat} {ps : List HssParam}
    (hrows : ∀ p ∈ ps, IsOtsRow n p.ots ∧ IsLmsRow p.lms) (h : FitsBuild cfg ps) : FitsBuild Config.default ps :=
  ⟨default_maxLevels ▸ Nat.le_trans h.1 (valid_props hv).levels_le,
   fun i hi => withinLimits_default hv (hrows _ (List.getElem_mem hi)).1 (hrows _ (List.getElem_mem hi)).2 (h.2 i hi)⟩

theorem bytesOfParams_default (cfg : Config) (hv : cfg.valid = true) (n : Nat) (ps : List HssParam) (pb : Bytes)
    (hrows : ∀ p ∈ ps, IsOtsRow n p.ots ∧ IsLmsRow p.lms) (h : bytesOfParams cfg n ps = .ok (some pb)) :
    bytesOfParams Config.default n ps = .ok (some pb) := by
  rw [bytesOfParams_eq_ite _ n ps (rows_type_lt hrows)] at h ⊢
  split at h
  · rename_i hc
    rw [if_pos ⟨fitsBuild_default hv hrows hc.1, hc.2⟩]
    exact h
  · cases h

end Lemmas
