/-
Lifetime accounting: `Impl.lifetimeOf` (the bottom-up saturating fold of `HssPrivateKey::get_lifetime`)
computes, for every key shape, the number of counters that are left, saturated at `u64::MAX`.
-/
import HbsLms.Lemmas.Counter

namespace Lemmas

open Impl Spec

/-- Remaining signatures, top level first: the bottom tree still has `2^h - q` leaves, every tree above it has
already consumed its current leaf, so it contributes `2^h - q - 1` further subtrees. -/
def life : List Nat → List Nat → Nat
  | [], _ => 0
  | _ :: _, [] => 0
  | [h], q :: _ => 2 ^ h - q
  | h :: h' :: hs, q :: qs => (2 ^ h - q - 1) * 2 ^ (h' :: hs).sum + life (h' :: hs) qs

theorem life_cons_cons (h h' : Nat) (hs : List Nat) (q : Nat) (qs : List Nat) :
    life (h :: h' :: hs) (q :: qs) = (2 ^ h - q - 1) * 2 ^ (h' :: hs).sum + life (h' :: hs) qs := rfl

/-- the tree sizes, bottom level first (the second accumulator component of the fold) -/
def sizes (hs : List Nat) : List Nat := (hs.map (2 ^ ·)).reverse

theorem sizes_cons (h : Nat) (hs : List Nat) : sizes (h :: hs) = sizes hs ++ [2 ^ h] := List.reverse_cons

theorem two_pow_sum_cons (h : Nat) (hs : List Nat) : 2 ^ (h :: hs).sum = 2 ^ hs.sum * 2 ^ h := by
  rw [List.sum_cons, Nat.pow_add, Nat.mul_comm]

/-- saturation at `u64::MAX` -/
def sat (x : Nat) : Nat := min x (2 ^ 64 - 1)

/-- one iteration of the loop in `lifetimeOf` (`L` = number of levels) -/
def lifeStep (L : Nat) (hs qs : List Nat) (i : Nat) (acc : Nat × List Nat) : Nat × List Nat :=
  let total := 2 ^ hs.getD i 0
  let used := if i + 1 < L then qs.getD i 0 + 1 else qs.getD i 0
  let free := acc.2.foldl (fun f t => sat (f * t)) (total - used)
  (sat (acc.1 + free), acc.2 ++ [total])

/-- the loop over the levels `n-1, …, 0` -/
def lifeFold (L : Nat) (hs qs : List Nat) (n : Nat) : Nat × List Nat :=
  (List.range n).foldr (lifeStep L hs qs) (0, [])

theorem lifetimeOf_eq_lifeFold (hs qs : List Nat) :
    lifetimeOf hs qs = (lifeFold hs.length hs qs hs.length).1 := by
  unfold lifetimeOf lifeFold
  simp only [List.foldl_reverse]
  rfl

theorem lifeStep_succ (L : Nat) (h q : Nat) (hs qs : List Nat) (i : Nat) (acc : Nat × List Nat) :
    lifeStep (L + 1) (h :: hs) (q :: qs) (i + 1) acc = lifeStep L hs qs i acc := by
  simp only [lifeStep, List.getD_cons_succ, Nat.add_lt_add_iff_right]

theorem lifeFold_succ (L : Nat) (h q : Nat) (hs qs : List Nat) (n : Nat) :
    lifeFold (L + 1) (h :: hs) (q :: qs) (n + 1)
      = lifeStep (L + 1) (h :: hs) (q :: qs) 0 (lifeFold L hs qs n) := by
  unfold lifeFold
  rw [List.range_succ_eq_map, List.foldr_cons, List.foldr_map]
  simp only [Nat.succ_eq_add_one, lifeStep_succ]

theorem life_le (hs qs : List Nat) : life hs qs ≤ 2 ^ hs.sum := by
  fun_induction life hs qs with
  | case1 => simp
  | case2 => simp
  | case3 h q qs => simp
  | case4 h h' hs q qs ih =>
    rw [List.sum_cons (a := h), Nat.pow_add]
    generalize 2 ^ (h' :: hs).sum = P at ih ⊢
    calc (2 ^ h - q - 1) * P + life (h' :: hs) qs ≤ (2 ^ h - q - 1) * P + P := Nat.add_le_add_left ih _
      _ = ((2 ^ h - q - 1) + 1) * P := (Nat.succ_mul _ _).symm
      _ ≤ 2 ^ h * P := Nat.mul_le_mul_right _ (Nat.succ_le_of_lt
          (by rw [Nat.sub_sub]; exact Nat.sub_lt (Nat.two_pow_pos h) (Nat.succ_pos q)))

theorem life_mixedRadix (hs : List Nat) (c : Nat) (hne : hs ≠ []) :
    life hs (mixedRadix hs c) = 2 ^ hs.sum - c % 2 ^ hs.sum := by
  induction hs with
  | nil => exact absurd rfl hne
  | cons h hs ih =>
    cases hs with
    | nil => simp [mixedRadix, life]
    | cons h' hs =>
      have ih' := ih (by simp)
      have hm : mixedRadix (h :: h' :: hs) c
          = (c / 2 ^ (h' :: hs).sum) % 2 ^ h :: mixedRadix (h' :: hs) c := by
        simp [mixedRadix]
      rw [hm, life_cons_cons, ih', two_pow_sum_cons h (h' :: hs), Nat.mod_mul]
      have hP : 0 < 2 ^ (h' :: hs).sum := Nat.two_pow_pos _
      generalize 2 ^ (h' :: hs).sum = P at hP
      obtain ⟨d, hd⟩ := Nat.exists_eq_add_of_lt (Nat.mod_lt (c / P) (Nat.two_pow_pos h))
      have hr : c % P ≤ P := Nat.le_of_lt (Nat.mod_lt _ hP)
      generalize c / P % 2 ^ h = q at hd
      generalize c % P = r at hr
      -- with `2 ^ h = q + d + 1` both sides are `P * d + (P - r)`
      rw [hd, Nat.add_assoc q d 1, Nat.add_sub_cancel_left, Nat.add_sub_cancel, Nat.mul_add, Nat.add_comm r,
        Nat.add_sub_add_left, Nat.mul_succ, Nat.add_sub_assoc hr, Nat.mul_comm d P]

theorem sat_idem (a : Nat) : sat (sat a) = sat a := by unfold sat; omega

theorem sat_add (a b : Nat) : sat (sat a + sat b) = sat (a + b) := by unfold sat; omega

theorem sat_sat_mul (a t : Nat) (ht : 0 < t) : sat (sat a * t) = sat (a * t) := by
  unfold sat
  by_cases h : a ≤ 2 ^ 64 - 1
  · rw [Nat.min_eq_left h]
  · have h1 : 2 ^ 64 - 1 ≤ a := by omega
    rw [Nat.min_eq_right h1]
    have h2 : 2 ^ 64 - 1 ≤ (2 ^ 64 - 1) * t := Nat.le_mul_of_pos_right _ ht
    have h3 : a ≤ a * t := Nat.le_mul_of_pos_right _ ht
    rw [Nat.min_eq_right h2, Nat.min_eq_right (Nat.le_trans h1 h3)]

theorem foldl_sizes_sat (hs : List Nat) (x : Nat) :
    sat ((sizes hs).foldl (fun f t => sat (f * t)) x) = sat (x * 2 ^ hs.sum) := by
  induction hs with
  | nil => simp [sizes]
  | cons h hs ih =>
    rw [sizes_cons, List.foldl_append]
    simp only [List.foldl_cons, List.foldl_nil]
    rw [sat_idem, ← sat_sat_mul _ _ (Nat.two_pow_pos h), ih, sat_sat_mul _ _ (Nat.two_pow_pos h), two_pow_sum_cons,
      Nat.mul_assoc]

theorem lifeFold_eq_sat (hs qs : List Nat) (hlen : qs.length = hs.length) :
    lifeFold hs.length hs qs hs.length = (sat (life hs qs), sizes hs) := by
  induction hs generalizing qs with
  | nil => simp [lifeFold, life, sizes, sat]
  | cons h hs ih =>
    cases qs with
    | nil => simp at hlen
    | cons q qs =>
      have hlen' : qs.length = hs.length := by simpa using hlen
      rw [List.length_cons, lifeFold_succ, ih qs hlen']
      cases hs with
      | nil =>
        simp only [lifeStep, life, sizes, List.length_nil, List.getD_cons_zero]
        simp only [Nat.lt_irrefl, if_false, List.map_nil, List.reverse_nil, List.foldl_nil,
          List.nil_append, List.map_cons, List.reverse_cons]
        have : sat 0 = 0 := by simp [sat]
        rw [this, Nat.zero_add]
      | cons h' hs =>
        have hlt : 0 + 1 < (h' :: hs).length + 1 := by simp
        simp only [lifeStep, hlt, if_true, List.getD_cons_zero, sizes_cons h]
        have hsub : 2 ^ h - (q + 1) = 2 ^ h - q - 1 := Nat.sub_add_eq _ _ _
        rw [life_cons_cons, hsub, Nat.add_comm ((2 ^ h - q - 1) * 2 ^ (h' :: hs).sum)]
        refine Prod.ext ?_ rfl
        rw [← sat_add, sat_idem, foldl_sizes_sat, sat_add]

theorem lifetimeOf_eq_sat_life (hs qs : List Nat) (hlen : qs.length = hs.length) :
    lifetimeOf hs qs = sat (life hs qs) := by
  rw [lifetimeOf_eq_lifeFold, lifeFold_eq_sat hs qs hlen]

/-- for every key shape (`_all` as in `incrementCounter_all`) -/
theorem lifetime_all (hs : List Nat) (c : Nat) (hne : hs ≠ []) (hc : c < 2 ^ hs.sum) :
    lifetimeOf hs (mixedRadix hs c) = min (2 ^ hs.sum - c) (2 ^ 64 - 1) := by
  rw [lifetimeOf_eq_sat_life hs _ (mixedRadix_length hs c), life_mixedRadix hs c hne, Nat.mod_eq_of_lt hc]
  rfl

theorem lifetime_eq (hs : List Nat) (c : Nat) (hne : hs ≠ []) (hsum : hs.sum ≤ 63) (hc : c < 2 ^ hs.sum) :
    lifetimeOf hs (mixedRadix hs c) = 2 ^ hs.sum - c := by
  have h63 : 2 ^ hs.sum ≤ 2 ^ 63 := Nat.pow_le_pow_right (by omega) hsum
  rw [lifetime_all hs c hne hc]
  omega

end Lemmas
