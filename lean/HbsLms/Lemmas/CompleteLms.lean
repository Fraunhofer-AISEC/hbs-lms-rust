/-
Completeness of LMS: a released LMS signature parses, the serialised public key parses, and the signature verifies
under that public key.
-/
import HbsLms.Lemmas.CompleteTree
import HbsLms.Lemmas.CompleteOts

namespace Lemmas.Complete

open Impl Generated

/-- What completeness needs of an LMS key so that its signatures and its public key parse back.
The other predicates on a level: `GoodParam` (CompleteHss) is the same about a parameter pair, with `16 ≤ n` in place
of the identifier, and gives `GoodKey` for the derived trees (`rootKey_good`, `childLevel_good`);
`KeygenRefine.LevelLens` is about the byte lengths of `I` and the seed only; `LevelOk`/`ParamsOk` (Limits) describe
what `paramsOfBytes` accepts, build limits included, and imply `GoodParam` (`GoodParam.of_paramsOk`);
`LevelCaps`/`ParamCaps` (Limits, SignTotal) are capacity facts for totality, of no use to completeness. -/
structure GoodKey (n : Nat) (k : LmsKey) : Prop where
  ots : Params.lmotsGetFromType n k.ots.typeId = some k.ots
  lms : Params.lmsGetFromType k.lms.typeId = some k.lms
  I : k.I.length = 16

theorem GoodKey.typeIds_lt {n : Nat} {k : LmsKey} (g : GoodKey n k) : k.ots.typeId < 2 ^ 32 ∧ k.lms.typeId < 2 ^ 32 := by
  have h1 := (ots_row_props (isOtsRow_of_getFromType g.ots)).typeId_lt
  have h2 := (lms_row_props (isLmsRow_of_getFromType g.lms)).typeId_lt
  omega

def lmsSigBytes (H : HashFn) (k : LmsKey) (q : Nat) (msg C : Bytes) : Bytes :=
  Bytes.u32be q ++ lmotsSigBytes H k.I (Bytes.u32be q) k.seed k.ots C msg ++ Bytes.u32be k.lms.typeId
    ++ (authPath H k q).flatten

theorem lmsSigBytes_length (H : HashFn) (k : LmsKey) (q : Nat) (msg C : Bytes) (hC : C.length = H.n) :
    (lmsSigBytes H k q msg C).length = lms_signature_length H.n k.ots.p k.lms.h := by
  simp only [lmsSigBytes, List.length_append, Bytes.u32be_length, lmotsSigBytes_length _ _ _ _ _ _ _ hC,
    authPath_flatten_length, lms_signature_length, lmots_signature_length]
  rw [Nat.mul_add, Nat.mul_one]
  omega

theorem lmsSign_none_inv {H : HashFn} {cfg : Config} {k : LmsKey} {q : Nat} {msg C sig : Bytes} {a : Option ExpAux}
    (h : lmsSign H cfg k q msg C none = .ok (some (sig, a))) :
    q < 2 ^ k.lms.h ∧ C.length = H.n ∧ sig = lmsSigBytes H k q msg C ∧ a = none := by
  by_cases hq : q ≥ 2 ^ k.lms.h
  · simp only [lmsSign, hq, if_true] at h
    cases h
  · have hq' : q < 2 ^ k.lms.h := Nat.lt_of_not_le hq
    simp only [lmsSign, hq, if_false] at h
    obtain ⟨-, h⟩ := P.require_bind_eq_ok.1 h
    obtain ⟨ots, hots, h⟩ := P.bind_eq_ok.1 h
    obtain ⟨hC, rfl⟩ := lmotsSign_inv hots
    obtain ⟨-, h⟩ := P.require_bind_eq_ok.1 h
    rw [authPath_fold H k q hq'] at h
    obtain ⟨-, h⟩ := P.require_bind_eq_ok.1 h
    obtain ⟨rfl, rfl⟩ := Prod.mk.inj (Option.some.inj (P.pure_eq_ok.1 h))
    exact ⟨hq', hC, rfl, rfl⟩

theorem lmsSign_none_eq (H : HashFn) (cfg : Config) (k : LmsKey) (q : Nat) (msg C : Bytes)
    (hg : OtsRowGood H.n k.ots = true) (hC : C.length = H.n) (hq : q < 2 ^ k.lms.h)
    (h1 : k.ots.p ≤ cfg.maxChains) (h2 : k.lms.h ≤ cfg.maxTreeHeight)
    (h3 : lms_signature_length H.n k.ots.p k.lms.h ≤ cfg.maxLmsSigLen) :
    lmsSign H cfg k q msg C none = .ok (some (lmsSigBytes H k q msg C, none)) := by
  rw [← lmsSigBytes_length H k q msg C hC, lmsSigBytes] at h3
  simp only [lmsSign, Nat.not_le.2 hq, if_false, h1, h2, h3, decide_true, P.require_true, P.ok_bind, P.pure_eq,
    lmotsSign_eq H k.I _ k.seed k.ots C msg hg hC, authPath_fold H k q hq, lmsSigBytes]

def lmsSigParsed (H : HashFn) (k : LmsKey) (q : Nat) (msg C : Bytes) : InMemLmsSig :=
  ⟨q, lmotsSigParsed H k.I (Bytes.u32be q) k.seed k.ots C msg, (authPath H k q).flatten, k.lms⟩

theorem lmsSigParsed_len (H : HashFn) (k : LmsKey) (q : Nat) (msg C : Bytes) :
    (lmsSigParsed H k q msg C).len H.n = lms_signature_length H.n k.ots.p k.lms.h := rfl

theorem lmsSig_parse (H : HashFn) (k : LmsKey) (q : Nat) (msg C tail : Bytes) (g : GoodKey H.n k)
    (hC : C.length = H.n) (hq : q < 2 ^ k.lms.h) :
    InMemLmsSig.parse H.n (lmsSigBytes H k q msg C ++ tail) = some (lmsSigParsed H k q msg C) := by
  have hh := (lms_row_props (isLmsRow_of_getFromType g.lms)).h_le
  have hq32 : q < 2 ^ 32 :=
    Nat.lt_of_lt_of_le hq (Nat.pow_le_pow_right (by decide) (Nat.le_trans hh (by decide)))
  obtain ⟨hot, hlt⟩ := g.typeIds_lt
  have hcl := sigChains_flatten_length H k.I (Bytes.u32be q) k.seed k.ots C msg
  have hpl := authPath_flatten_length H k q
  have hmm : H.n * (k.ots.p + 1) = H.n * k.ots.p + H.n := Nat.mul_succ _ _
  have hd : lmsSigBytes H k q msg C ++ tail =
      Bytes.u32be q ++ (Bytes.u32be k.ots.typeId ++ C ++ (sigChains H k.I (Bytes.u32be q) k.seed k.ots C msg).flatten) ++
        Bytes.u32be k.lms.typeId ++ (authPath H k q).flatten ++ tail := rfl
  generalize lmsSigBytes H k q msg C ++ tail = d at hd ⊢
  -- the six fields, each by `slice_of_eq` with what stands before and after it
  have s1 : Bytes.slice d 0 4 = Bytes.u32be q :=
    slice_of_eq (pre := []) (post := Bytes.u32be k.ots.typeId ++ C ++
        (sigChains H k.I (Bytes.u32be q) k.seed k.ots C msg).flatten ++ Bytes.u32be k.lms.typeId ++
        (authPath H k q).flatten ++ tail)
      (by rw [hd]; simp only [List.nil_append, List.append_assoc]) rfl (Bytes.u32be_length _).symm
  have s2 : Bytes.slice d 4 4 = Bytes.u32be k.ots.typeId :=
    slice_of_eq (pre := Bytes.u32be q) (post := C ++ (sigChains H k.I (Bytes.u32be q) k.seed k.ots C msg).flatten ++
        Bytes.u32be k.lms.typeId ++ (authPath H k q).flatten ++ tail)
      (by rw [hd]; simp only [List.append_assoc]) (Bytes.u32be_length _).symm (Bytes.u32be_length _).symm
  have s3 : Bytes.slice d 8 H.n = C :=
    slice_of_eq (pre := Bytes.u32be q ++ Bytes.u32be k.ots.typeId)
      (post := (sigChains H k.I (Bytes.u32be q) k.seed k.ots C msg).flatten ++ Bytes.u32be k.lms.typeId ++
        (authPath H k q).flatten ++ tail)
      (by rw [hd]; simp only [List.append_assoc]) (by simp only [List.length_append, Bytes.u32be_length]) hC.symm
  have s4 : Bytes.slice d (8 + H.n) (H.n * k.ots.p) = (sigChains H k.I (Bytes.u32be q) k.seed k.ots C msg).flatten :=
    slice_of_eq (pre := Bytes.u32be q ++ Bytes.u32be k.ots.typeId ++ C)
      (post := Bytes.u32be k.lms.typeId ++ (authPath H k q).flatten ++ tail)
      (by rw [hd]; simp only [List.append_assoc]) (by simp only [List.length_append, Bytes.u32be_length, hC]) hcl.symm
  have s5 : Bytes.slice d (4 + (4 + H.n * (k.ots.p + 1))) 4 = Bytes.u32be k.lms.typeId :=
    slice_of_eq (pre := Bytes.u32be q ++ (Bytes.u32be k.ots.typeId ++ C ++
        (sigChains H k.I (Bytes.u32be q) k.seed k.ots C msg).flatten)) (post := (authPath H k q).flatten ++ tail)
      (by rw [hd]; simp only [List.append_assoc]) (by simp only [List.length_append, Bytes.u32be_length, hC, hcl]; omega)
      (Bytes.u32be_length _).symm
  have s6 : Bytes.slice d (8 + (4 + H.n * (k.ots.p + 1))) (H.n * k.lms.h) = (authPath H k q).flatten :=
    slice_of_eq (pre := Bytes.u32be q ++ (Bytes.u32be k.ots.typeId ++ C ++
        (sigChains H k.I (Bytes.u32be q) k.seed k.ots C msg).flatten) ++ Bytes.u32be k.lms.typeId) (post := tail) hd
      (by simp only [List.length_append, Bytes.u32be_length, hC, hcl]; omega) hpl.symm
  have hlen : Refine.lmsLen H.n k.ots k.lms ≤ d.length := by
    rw [hd]; simp only [Refine.lmsLen, List.length_append, Bytes.u32be_length, hC, hcl, hpl]; omega
  refine Refine.lms_parse_iff.mpr ⟨k.ots, k.lms,
    ⟨by rw [s2, Bytes.toNat_u32be_of_lt hot]; exact g.ots, by rw [s5, Bytes.toNat_u32be_of_lt hlt]; exact g.lms,
      Nat.le_trans (Nat.le_add_right _ _) hlen⟩, hlen, by rw [s1, Bytes.toNat_u32be_of_lt hq32]; exact hq, ?_⟩
  rw [Refine.lmsOf, s1, s3, s4, s6, Bytes.toNat_u32be_of_lt hq32]
  rfl

def pkBytes (H : HashFn) (k : LmsKey) : Bytes := lmsPublicKeyBytes k (T H k k.lms.h 1)

def lmsPkParsed (H : HashFn) (k : LmsKey) : InMemLmsPk :=
  ⟨T H k k.lms.h 1, k.I, k.ots, k.lms, pkBytes H k⟩

theorem pkBytes_length (H : HashFn) (k : LmsKey) (hI : k.I.length = 16) :
    (pkBytes H k).length = lms_public_key_length H.n := by
  simp only [pkBytes, lmsPublicKeyBytes, List.length_append, Bytes.u32be_length, hI, T_length, lms_public_key_length]

theorem lmsPk_parse (H : HashFn) (k : LmsKey) (tail : Bytes) (g : GoodKey H.n k) :
    InMemLmsPk.parse H.n (pkBytes H k ++ tail) = some (lmsPkParsed H k) := by
  obtain ⟨hot, hlt⟩ := g.typeIds_lt
  have hT := T_length H k k.lms.h 1
  have hl : (pkBytes H k).length = 24 + H.n := pkBytes_length H k g.I
  have hd : pkBytes H k ++ tail =
      Bytes.u32be k.lms.typeId ++ Bytes.u32be k.ots.typeId ++ k.I ++ T H k k.lms.h 1 ++ tail := rfl
  have htake : (pkBytes H k ++ tail).take (24 + H.n) = pkBytes H k := by
    rw [List.take_append_of_le_length (Nat.le_of_eq hl.symm), List.take_of_length_le (Nat.le_of_eq hl)]
  generalize pkBytes H k ++ tail = d at hd htake ⊢
  -- the four fields, each by `slice_of_eq` with what stands before and after it
  have s1 : Bytes.slice d 0 4 = Bytes.u32be k.lms.typeId :=
    slice_of_eq (pre := []) (post := Bytes.u32be k.ots.typeId ++ k.I ++ T H k k.lms.h 1 ++ tail)
      (by rw [hd]; simp only [List.nil_append, List.append_assoc]) rfl (Bytes.u32be_length _).symm
  have s2 : Bytes.slice d 4 4 = Bytes.u32be k.ots.typeId :=
    slice_of_eq (pre := Bytes.u32be k.lms.typeId) (post := k.I ++ T H k k.lms.h 1 ++ tail)
      (by rw [hd]; simp only [List.append_assoc]) (Bytes.u32be_length _).symm (Bytes.u32be_length _).symm
  have s3 : Bytes.slice d 8 16 = k.I :=
    slice_of_eq (pre := Bytes.u32be k.lms.typeId ++ Bytes.u32be k.ots.typeId) (post := T H k k.lms.h 1 ++ tail)
      (by rw [hd]; simp only [List.append_assoc]) (by simp only [List.length_append, Bytes.u32be_length]) g.I.symm
  have s4 : Bytes.slice d 24 H.n = T H k k.lms.h 1 :=
    slice_of_eq (pre := Bytes.u32be k.lms.typeId ++ Bytes.u32be k.ots.typeId ++ k.I) (post := tail) hd
      (by simp only [List.length_append, Bytes.u32be_length, g.I]) hT.symm
  refine Refine.pk_parse_iff.mpr ⟨k.lms, k.ots, ?_, by rw [s1, Bytes.toNat_u32be_of_lt hlt]; exact g.lms,
    by rw [s2, Bytes.toNat_u32be_of_lt hot]; exact g.ots, by rw [s3, s4, htake]; rfl⟩
  rw [hd]; simp only [List.length_append, Bytes.u32be_length, g.I, hT]; omega

theorem lmsCandidate_released (H : HashFn) (k : LmsKey) (q : Nat) (msg C : Bytes) (g : GoodKey H.n k)
    (hq : q < 2 ^ k.lms.h) :
    lmsCandidate H (lmsSigParsed H k q msg C) (lmsPkParsed H k) msg = .ok (some (T H k k.lms.h 1)) := by
  unfold lmsCandidate
  have hq' : ¬ q ≥ 2 ^ k.lms.h := Nat.not_le.2 hq
  simp only [lmsSigParsed, lmsPkParsed, hq', if_false]
  rw [lmotsCandidate_released H k.I q k.seed k.ots C msg (otsRowGood_of_getFromType g.ots)]
  simp only [P.ok_bind]
  have hleaf : H.h (k.I ++ Bytes.u32be (2 ^ k.lms.h + q) ++ D_LEAF ++
      lmotsPublicKey H k.I (Bytes.u32be q) k.ots (lmotsPrivateKey H k.I (Bytes.u32be q) k.seed k.ots))
      = T H k 0 (2 ^ k.lms.h + q) := by
    simp only [T, leafNode, Nat.add_sub_cancel_left]
  rw [hleaf, climb_reaches_root H k q hq]
  rfl

theorem lmsVerify_released (H : HashFn) (k : LmsKey) (q : Nat) (msg C : Bytes) (g : GoodKey H.n k)
    (hq : q < 2 ^ k.lms.h) :
    lmsVerify H (lmsSigParsed H k q msg C) (lmsPkParsed H k) msg = .ok true := by
  unfold lmsVerify
  -- signature and key carry the same rows, and the candidate is the key's root
  rw [if_neg (by simp only [lmsSigParsed, lmotsSigParsed, lmsPkParsed, bne_self_eq_false, Bool.or_self,
    Bool.false_eq_true, not_false_eq_true]), lmsCandidate_released H k q msg C g hq, P.ok_bind]
  exact congrArg Except.ok (beq_self_eq_true _)

theorem lmsSign_complete {H : HashFn} {cfg : Config} {k : LmsKey} {q : Nat} {msg C sig : Bytes} {a : Option ExpAux}
    (g : GoodKey H.n k) (hs : lmsSign H cfg k q msg C none = .ok (some (sig, a))) :
    InMemLmsSig.parse H.n sig = some (lmsSigParsed H k q msg C) ∧
      InMemLmsPk.parse H.n (pkBytes H k) = some (lmsPkParsed H k) ∧
      lmsVerify H (lmsSigParsed H k q msg C) (lmsPkParsed H k) msg = .ok true := by
  obtain ⟨hq, hC, rfl, -⟩ := lmsSign_none_inv hs
  have h1 := lmsSig_parse H k q msg C [] g hC hq
  have h2 := lmsPk_parse H k [] g
  rw [List.append_nil] at h1 h2
  exact ⟨h1, h2, lmsVerify_released H k q msg C g hq⟩

theorem lms_complete (H : HashFn) (cfg : Config) (k : LmsKey) (q : Nat) (msg C sig : Bytes) (a : Option ExpAux)
    (g : GoodKey H.n k) (hC : C.length = H.n)
    (hs : lmsSign H cfg k q msg C none = .ok (some (sig, a))) :
    ∃ s p, InMemLmsSig.parse H.n sig = some s ∧
      InMemLmsPk.parse H.n (lmsPublicKeyBytes k (treeNode H k 1 none).1) = some p ∧
      lmsVerify H s p msg = .ok true := by
  rw [treeNode_root]
  exact ⟨_, _, lmsSign_complete g hs⟩

end Lemmas.Complete
