/-
Independence of the build configuration: the configuration enters signing only through capacity checks
(`P.require`), so what signing returns under two well-formed configurations that accept the same parameter bytes is
the same; it enters verification only through the bound on the level count.
-/
import HbsLms.Lemmas.SignTotal

namespace Lemmas

open Impl Generated Lemmas.Layout Lemmas.AuxCache

theorem lmsSign_agree (H : HashFn) (cfg cfg' : Config) (k : LmsKey) (q : Nat) (msg C : Bytes) (aux : Option ExpAux) :
    Agree (lmsSign H cfg k q msg C aux) (lmsSign H cfg' k q msg C aux) := by
  unfold lmsSign
  by_cases hq : q ≥ 2 ^ k.lms.h
  · simp only [hq, if_true]; exact Agree.refl _
  · simp only [hq, if_false]
    apply Agree.require
    apply Agree.bind (Agree.refl _)
    intro ots
    apply Agree.require
    apply Agree.require
    exact Agree.refl _

theorem expand_go_agree (H : HashFn) (cfg cfg' : Config) (leaves : List Nat) :
    ∀ (rest : List HssParam) (i : Nat) (parent : Level) (acc : Expanded) (aux : Option ExpAux) (live : Bool),
      Agree (expandPrivateKey.go H cfg leaves i rest parent acc aux live)
        (expandPrivateKey.go H cfg' leaves i rest parent acc aux live) := by
  intro rest
  induction rest with
  | nil => intro i parent acc aux live; simp only [expandPrivateKey.go]; exact Agree.refl _
  | cons p rest ih =>
    intro i parent acc aux live
    simp only [expandPrivateKey.go]
    apply Agree.require
    apply Agree.bind (lmsSign_agree _ _ _ _ _ _ _ _)
    intro r
    cases r with
    | none => exact Agree.refl _
    | some sa => exact ih _ _ _ _ _

theorem signTop_congr {H : HashFn} {cfg cfg' : Config} {k : RefKey}
    (hps : paramsOfBytes cfg H.n k.params = paramsOfBytes cfg' H.n k.params) : signTop H cfg k = signTop H cfg' k := by
  rw [signTop, hps, signTop]

theorem expandPrivateKey_agree (H : HashFn) (cfg cfg' : Config) (k : RefKey) (aux : Option ExpAux)
    (hps : paramsOfBytes cfg H.n k.params = paramsOfBytes cfg' H.n k.params) :
    Agree (expandPrivateKey H cfg k aux) (expandPrivateKey H cfg' k aux) := by
  cases hst : signTop H cfg' k with
  | none =>
    rw [expandPrivateKey_noTop ((signTop_congr hps).trans hst), expandPrivateKey_noTop hst]
    exact Agree.refl _
  | some p0 =>
    obtain ⟨rest, hp⟩ := signTop_eq_some_iff.1 hst
    rw [expandPrivateKey_of_params (hps.trans hp), expandPrivateKey_of_params hp]
    exact expand_go_agree _ _ _ _ _ _ _ _ _ _

def AuxAlike (H : HashFn) (cfg cfg' : Config) (aux : Option Bytes) : Prop :=
  ∀ seed h0, getExpandedAuxData H cfg aux seed h0 = getExpandedAuxData H cfg' aux seed h0

theorem auxAlike_none (H : HashFn) (cfg cfg' : Config) : AuxAlike H cfg cfg' none := fun _ _ => rfl

theorem auxAlike_of_height (H : HashFn) (cfg cfg' : Config) (aux : Option Bytes)
    (h : cfg.maxTreeHeight = cfg'.maxTreeHeight) : AuxAlike H cfg cfg' aux := by
  intro seed h0
  simp only [getExpandedAuxData, hss_expand_aux_data, h]

theorem signBody_agree (H : HashFn) (cfg cfg' : Config) (msg : Bytes) (k : RefKey)
    (g : Option ExpAux × Option Bytes × Bytes)
    (hps : paramsOfBytes cfg H.n k.params = paramsOfBytes cfg' H.n k.params) :
    Agree (signBody H cfg msg k g) (signBody H cfg' msg k g) := by
  unfold signBody
  apply Agree.bind (expandPrivateKey_agree H cfg cfg' k g.1 hps)
  intro r
  cases r with
  | none => exact Agree.refl _
  | some exa =>
    obtain ⟨ex, e1⟩ := exa
    dsimp only
    cases ex.levels.getLast? with
    | none => exact Agree.refl _
    | some bottom =>
      dsimp only
      apply Agree.bind (lmsSign_agree _ _ _ _ _ _ _ _)
      intro r2
      cases r2 with
      | none => exact Agree.refl _
      | some be =>
        -- the three capacity checks at the end are the only other places where the configuration is read
        dsimp only
        apply Agree.require
        apply Agree.require
        apply Agree.require
        exact Agree.refl _

theorem signPrepare_agree (H : HashFn) (cfg cfg' : Config) (msg : Bytes) (k : RefKey) (aux : Option Bytes)
    (hps : paramsOfBytes cfg H.n k.params = paramsOfBytes cfg' H.n k.params) (haux : AuxAlike H cfg cfg' aux) :
    Agree (signPrepare H cfg msg k aux) (signPrepare H cfg' msg k aux) := by
  cases hst : signTop H cfg' k with
  | none =>
    rw [signPrepare_noTop H cfg msg k aux ((signTop_congr hps).trans hst), signPrepare_noTop H cfg' msg k aux hst]
    exact Agree.refl _
  | some p0 =>
    rw [signPrepare_of_top ((signTop_congr hps).trans hst), signPrepare_of_top hst, haux]
    exact signBody_agree H cfg cfg' msg k _ hps

/-- `hps`: the two configurations decode the parameter bytes of the key alike; asked of the parsed key only, so that key
bytes that do not parse need nothing -/
theorem hssSign_indep (H : HashFn) (cfg cfg' : Config) (hwf : cfg.wellFormed = true) (hwf' : cfg'.wellFormed = true)
    (msg sk : Bytes) (cb : Bytes → Bool) (aux : Option Bytes)
    (hps : ∀ k, RefKey.parse H.n sk = some k → paramsOfBytes cfg H.n k.params = paramsOfBytes cfg' H.n k.params)
    (haux : AuxAlike H cfg cfg' aux) :
    hssSign H cfg msg sk cb aux = hssSign H cfg' msg sk cb aux := by
  cases hk : RefKey.parse H.n sk with
  | none => rw [hssSign_of_parse_none hk, hssSign_of_parse_none hk]
  | some k =>
    -- both calls return (`hssSign_eq_commit`), so `Agree` makes what they prepared equal
    obtain ⟨p, hp, hf, ho⟩ := hssSign_eq_commit H cfg hwf msg hk cb aux
    obtain ⟨p', hp', hf', ho'⟩ := hssSign_eq_commit H cfg' hwf' msg hk cb aux
    obtain rfl : p = p' := signPrepare_agree H cfg cfg' msg k aux (hps k hk) haux p p' hp hp'
    rw [ho, ho', signCommit_indep hf hf']

theorem hssVerify_indep (H : HashFn) {cfg cfg' : Config} (msg sig pk : Bytes)
    (h : ∀ lb, readAt sig 4 0 = some lb → Bytes.toNat lb ≤ cfg.maxLevels - 1 ∧ Bytes.toNat lb ≤ cfg'.maxLevels - 1) :
    hssVerify H cfg msg sig pk = hssVerify H cfg' msg sig pk := by
  unfold hssVerify InMemHssSig.parse
  cases hr : readAt sig 4 0 with
  | none => rfl
  | some lb =>
    obtain ⟨h1, h2⟩ := h lb hr
    simp only [Nat.not_lt.mpr h1, Nat.not_lt.mpr h2, if_false]

theorem hssVerify_true_levels {H : HashFn} {cfg : Config} {msg sig pk lb : Bytes}
    (h : hssVerify H cfg msg sig pk = .ok true) (hr : readAt sig 4 0 = some lb) :
    Bytes.toNat lb ≤ cfg.maxLevels - 1 := by
  apply Nat.le_of_not_lt
  intro hlt
  unfold hssVerify InMemHssSig.parse at h
  simp only [hr, hlt, if_true] at h
  cases h

theorem hssVerify_mono {H : HashFn} {cfg cfg' : Config} {msg sig pk : Bytes} (hle : cfg.maxLevels ≤ cfg'.maxLevels)
    (h : hssVerify H cfg msg sig pk = .ok true) : hssVerify H cfg' msg sig pk = .ok true :=
  (hssVerify_indep (cfg := cfg) (cfg' := cfg') H msg sig pk fun lb hr =>
    have := hssVerify_true_levels h hr
    ⟨this, by omega⟩).symm.trans h

end Lemmas
