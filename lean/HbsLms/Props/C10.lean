/-
C10 - the auxiliary buffer is only a cache: whatever it contains, key generation returns the same key pair and
signing the same signature and successor key as without auxiliary data; only buffers that carry a valid MAC for
this seed are ever read back. MAC unforgeability is never assumed: where the contents of a MAC-verified buffer
matter, the assumption is the explicit hypothesis `CacheTrue` (every non-zero slot of a cached level holds the true
node of the top tree). The side condition `cfg.maxTreeHeight ≤ 30`: bit 31 of the level word is the flag `0x80000000`,
so the levels `0 ..= maxTreeHeight` that are read from that word must stay below it, or what `hss_optimal_aux_level`
announces for a fresh buffer need not fit (`Lemmas.AuxCache.freshAux_cacheTrue`). The library supports heights ≤ 25.
-/
import HbsLms.Lemmas.AuxLifecycle

namespace Props.C10

open Impl Lemmas.AuxCache

/-- The plain tree: `T H k r` is `T[r]` computed without any cache. -/
theorem T_def (H : HashFn) (k : LmsKey) (r : Nat) : T H k r = (treeNode H k r none).1 := rfl

/-- The invariant, spelled out. -/
theorem cacheTrue_def (H : HashFn) (k : LmsKey) (e : ExpAux) :
    CacheTrue H k e ↔
      ∀ level layer, e.layers.getD level none = some layer →
        layer.length = H.n * 2 ^ level ∧
        ∀ j, j < 2 ^ level →
          Bytes.allZero (Bytes.slice layer (j * H.n) H.n) = true ∨
          Bytes.slice layer (j * H.n) H.n = T H k (2 ^ level + j) := Iff.rfl

/-- `get_tree_element` through a cache that satisfies the invariant returns the node of the plain tree and leaves a
cache that satisfies the invariant again. -/
theorem cache_transparent (H : HashFn) (k : LmsKey) (fuel r : Nat) (e : ExpAux) (hc : CacheTrue H k e)
    (hf : fuel ≤ k.lms.h) (h1 : 2 ^ (k.lms.h - fuel) ≤ r) (h2 : r < 2 ^ (k.lms.h - fuel + 1)) :
    ∃ e', getTreeElement H k fuel r (some e) = (T H k r, some e') ∧ CacheTrue H k e' := by
  obtain ⟨hv, hg, hfr⟩ :=
    through_getTreeElement fuel r (k.lms.h - fuel) (by omega) h1 h2 (some e) (auxGood_some hc)
  obtain ⟨e', he', hc'⟩ := auxGood_of_oframe_some hg hfr
  exact ⟨e', Prod.ext hv he', hc'⟩

/-- Any node of the tree is the same with a true cache as without a cache. -/
theorem treeNode_through_cache (H : HashFn) (k : LmsKey) (r : Nat) (e : ExpAux) (hc : CacheTrue H k e)
    (h1 : 1 ≤ r) (h2 : r < 2 ^ (k.lms.h + 1)) :
    (treeNode H k r (some e)).1 = (treeNode H k r none).1 ∧
    ∃ e', (treeNode H k r (some e)).2 = some e' ∧ CacheTrue H k e' := by
  have hr : r ≠ 0 := by omega
  have hle : log2 r ≤ k.lms.h := by
    have := (Nat.log2_lt hr).2 h2
    unfold log2; omega
  obtain ⟨hv, hg, hfr⟩ :=
    through_treeNode hle (Nat.log2_self_le hr) Nat.lt_log2_self (some e) (auxGood_some hc)
  obtain ⟨e', he', hc'⟩ := auxGood_of_oframe_some hg hfr
  exact ⟨hv, e', he', hc'⟩

/-- a hit in a cache that satisfies the invariant is the true node -/
theorem cache_hit_is_true_node {H : HashFn} {k : LmsKey} {e : ExpAux} (hc : CacheTrue H k e) {r l : Nat}
    (h1 : 2 ^ l ≤ r) (h2 : r < 2 ^ (l + 1)) {v : Bytes} (hv : hss_extract_aux_data H.n e r = some v) :
    v = T H k r := hss_extract_aux_data_sound hc h1 h2 hv

/-- storing the true node keeps the invariant -/
theorem cache_store_keeps_invariant {H : HashFn} {k : LmsKey} {e : ExpAux} (hc : CacheTrue H k e) {r l : Nat}
    (h1 : 2 ^ l ≤ r) (h2 : r < 2 ^ (l + 1)) (hlen : (T H k r).length = H.n) :
    CacheTrue H k (hss_save_aux_data H.n e r (T H k r)) := hss_save_aux_data_preserves hc h1 h2 rfl

/-- The expanded view of a zeroed and marked buffer: every cached level consists of zero bytes only. -/
theorem fresh_buffer_layers_zero (H : HashFn) (cfg : Config) (L level : Nat) (e : ExpAux)
    (h : hss_expand_aux_data H cfg (hss_store_aux_marker (Bytes.zeros L) level) none = some e) :
    ∀ lv layer, e.layers.getD lv none = some layer → ∀ x ∈ layer, x = 0 :=
  hss_expand_aux_data_zeros_layers H cfg L level e h

/-- ... and if the levels announced by its level word fit into the buffer, it satisfies the invariant for every key -/
theorem fresh_buffer_invariant (H : HashFn) (cfg : Config) (k : LmsKey) (L level : Nat) (e : ExpAux)
    (h : hss_expand_aux_data H cfg (hss_store_aux_marker (Bytes.zeros L) level) none = some e)
    (hfit : 4 + ((List.range (cfg.maxTreeHeight + 1)).map fun i =>
        if (e.level >>> i) &&& 1 == 0 then 0 else H.n <<< i).foldl (· + ·) 0 ≤ L) : CacheTrue H k e :=
  hss_expand_aux_data_zeros_cacheTrue H cfg k L level e h hfit

/-- total number of bytes covered by the MAC for a level word: `4 + Σ` sizes of the announced levels -/
theorem auxTotal_def (H : HashFn) (cfg : Config) (level : Nat) :
    auxTotal H cfg level = 4 + ((List.range (cfg.maxTreeHeight + 1)).map fun i =>
        if (level >>> i) &&& 1 == 0 then 0 else H.n <<< i).foldl (· + ·) 0 := rfl

/-- If `hss_expand_aux_data` with a seed hands out a view, the buffer was marked as used, is long enough for
everything its level word announces, and the bytes behind that are exactly the MAC keyed with this seed. -/
theorem only_authenticated_read_back (H : HashFn) (cfg : Config) (aux seed : Bytes) (e : ExpAux)
    (h : hss_expand_aux_data H cfg aux (some seed) = some e) :
    hss_is_aux_data_used aux = true ∧
    readAt aux 4 0 = some e.head ∧ e.level = e.head.toNat ∧
    aux.length ≥ auxTotal H cfg e.level ∧
    auxHmac H (auxSeedDerive H seed) (aux.take (auxTotal H cfg e.level)) = aux.drop (auxTotal H cfg e.level) := by
  have hv := hss_expand_aux_data_some h
  obtain ⟨h1, h2⟩ := hv.checked seed rfl
  exact ⟨hv.used, hv.head, hv.level, h1, h2⟩

/-- Buffers that are absent, empty, or fail authentication are never read: no view at all is handed to the tree code. -/
theorem unauthenticated_not_read (H : HashFn) (cfg : Config) (buf seed : Bytes) (h0 : Nat)
    (hu : hss_is_aux_data_used buf = true)
    (hbad : ¬ (buf.length ≥ auxTotal H cfg (Bytes.toNat (Bytes.slice buf 0 4)) ∧
      auxHmac H (auxSeedDerive H seed) (buf.take (auxTotal H cfg (Bytes.toNat (Bytes.slice buf 0 4)))) =
        buf.drop (auxTotal H cfg (Bytes.toNat (Bytes.slice buf 0 4))))) :
    (getExpandedAuxData H cfg (some buf) seed h0).1 = none := by
  rw [getExpandedAuxData_used H cfg buf seed h0 hu]
  cases he : hss_expand_aux_data H cfg buf (some seed) with
  | none => rfl
  | some e =>
    exfalso
    obtain ⟨_, h1, h2, h3, h4⟩ := only_authenticated_read_back H cfg buf seed e he
    obtain ⟨_, h5, _⟩ := readAt_inv h1
    rw [h2, h5] at h3 h4
    exact hbad ⟨h3, h4⟩

/-- The view handed to the tree code satisfies the invariant in every case, provided it does so in the one case where
foreign bytes are read back: a buffer that is marked as used and whose MAC verified for this seed. -/
theorem auxOK_of_authenticated_true (H : HashFn) (cfg : Config) (hK : cfg.maxTreeHeight ≤ 30)
    (aux : Option Bytes) (seed : Bytes) (p0 : HssParam)
    (hused : ∀ buf e, aux = some buf → hss_is_aux_data_used buf = true →
      hss_expand_aux_data H cfg buf (some seed) = some e → CacheTrue H (topKey H seed p0) e) :
    AuxOK H cfg aux seed p0 :=
  Lemmas.AuxLifecycle.auxInv_good (Lemmas.AuxLifecycle.getExpandedAuxData_auxInv H cfg hK aux seed p0 hused).1

/-- A buffer whose marker byte says "no aux data", of any length and with any content, yields a view satisfying the
invariant: the level word chosen by `hss_optimal_aux_level` always fits (for `cfg.maxTreeHeight ≤ 30`, see the head of
this file). An empty buffer is handed no view at all, so `hne` is not used. -/
theorem unmarked_buffer_invariant (H : HashFn) (cfg : Config) (hK : cfg.maxTreeHeight ≤ 30) (buf : Bytes)
    (hne : buf.isEmpty = false) (hun : hss_is_aux_data_used buf = false) (seed : Bytes) (p0 : HssParam) :
    ∀ e, (getExpandedAuxData H cfg (some buf) seed p0.lms.h).1 = some e → CacheTrue H (topKey H seed p0) e :=
  auxOK_of_authenticated_true H cfg hK (some buf) seed p0
    (Lemmas.AuxLifecycle.honest_some_of_unmarked H cfg seed p0 hun)

/-- LMS signing (authentication path) through a true cache: same signature bytes, same `Err`, same panic as without
aux data; the cache left behind is true again. -/
theorem lmsSign_same_signature (H : HashFn) (cfg : Config) (k : LmsKey) (q : Nat) (msg C : Bytes) (e : ExpAux)
    (hc : CacheTrue H k e) :
    (lmsSign H cfg k q msg C (some e)).map (Option.map Prod.fst) =
      (lmsSign H cfg k q msg C none).map (Option.map Prod.fst) ∧
    ∀ sig a, lmsSign H cfg k q msg C (some e) = .ok (some (sig, a)) → ∃ e', a = some e' ∧ CacheTrue H k e' := by
  obtain ⟨a', h, g, f⟩ := lmsSign_transparent H cfg k q msg C (some e) (auxGood_some hc)
  obtain ⟨e', rfl, he'⟩ := auxGood_of_oframe_some g f
  refine ⟨?_, fun sig a hs => ?_⟩
  · rw [h, P.map_map]
    congr 1
    funext r
    cases r <;> rfl
  · rw [h] at hs
    obtain ⟨_ | p, _, hr⟩ := P.map_eq_ok.1 hs
    · cases hr
    · cases hr
      exact ⟨e', rfl, he'⟩

/-- **Key generation.** Under the invariant, `hss_keygen` returns the same `(signing key, verifying key)` - or the same
error, or the same panic - as without auxiliary data. -/
theorem keygen_transparent (H : HashFn) (cfg : Config) (ps : List HssParam) (seed : Bytes) (aux : Option Bytes)
    (hok : ∀ p0, keygenTop H cfg ps = some p0 → AuxOK H cfg aux seed p0) :
    (hssKeygen H cfg ps seed aux).map (·.result) = (hssKeygen H cfg ps seed none).map (·.result) := by
  cases ht : keygenTop H cfg ps with
  | none =>
    rw [hssKeygen_noTop ht, hssKeygen_noTop ht]
    cases bytesOfParams cfg H.n ps with
    | error f => rfl
    | ok o => rfl
  | some p0 =>
    obtain ⟨a', _, e⟩ := Lemmas.AuxLifecycle.hssKeygen_reAux H cfg ps seed aux p0 ht rfl
      (Lemmas.AuxLifecycle.auxInv_of_auxOK (hok p0 ht))
    rw [e, P.map_map]
    rfl

/-- **Signing.** Under the invariant, `hss_sign` returns the same signature (or error, or panic) and hands the same
successor key to the update callback as without auxiliary data. -/
theorem sign_transparent (H : HashFn) (cfg : Config) (msg sk : Bytes) (cb : Bytes → Bool) (aux : Option Bytes)
    (hok : ∀ k, RefKey.parse H.n sk = some k → ∀ p0, signTop H cfg k = some p0 → AuxOK H cfg aux k.seed p0) :
    (hssSign H cfg msg sk cb aux).map (fun o => (o.result, o.trace)) =
      (hssSign H cfg msg sk cb none).map (fun o => (o.result, o.trace)) := by
  rcases Lemmas.AuxCache.signTop_cases H cfg sk with hun | ⟨k, p0, hk, hst⟩
  · rw [Lemmas.AuxLifecycle.hssSign_untouched hun, Lemmas.AuxLifecycle.hssSign_untouched hun]
    rfl
  · obtain ⟨a', _, e⟩ := Lemmas.AuxLifecycle.hssSign_reAux H cfg msg sk cb aux k p0 hk hst rfl
      (Lemmas.AuxLifecycle.auxInv_of_auxOK (hok k hk p0 hst))
    rw [e, P.map_map]
    rfl

/-- **C10, key generation.** Whatever the auxiliary buffer contains (absent, empty, unmarked with arbitrary content,
marked with a wrong MAC, marked with a correct MAC): the key pair is the one generated without auxiliary data. The only
assumption concerns buffers that were accepted by the MAC check for this seed: their non-zero slots hold true nodes of
the top tree. -/
theorem C10_keygen (H : HashFn) (cfg : Config) (hK : cfg.maxTreeHeight ≤ 30) (ps : List HssParam) (seed : Bytes)
    (aux : Option Bytes)
    (hused : ∀ p0 buf e, keygenTop H cfg ps = some p0 → aux = some buf → hss_is_aux_data_used buf = true →
      hss_expand_aux_data H cfg buf (some seed) = some e → CacheTrue H (topKey H seed p0) e) :
    (hssKeygen H cfg ps seed aux).map (·.result) = (hssKeygen H cfg ps seed none).map (·.result) :=
  keygen_transparent H cfg ps seed aux fun p0 hp0 =>
    auxOK_of_authenticated_true H cfg hK aux seed p0 fun buf e => hused p0 buf e hp0

/-- **C10, signing.** Same for `hss_sign`: signature / error / panic and the successor key handed to the callback do
not depend on the auxiliary buffer. -/
theorem C10_sign (H : HashFn) (cfg : Config) (hK : cfg.maxTreeHeight ≤ 30) (msg sk : Bytes) (cb : Bytes → Bool)
    (aux : Option Bytes)
    (hused : ∀ k p0 buf e, RefKey.parse H.n sk = some k → signTop H cfg k = some p0 → aux = some buf →
      hss_is_aux_data_used buf = true →
      hss_expand_aux_data H cfg buf (some k.seed) = some e → CacheTrue H (topKey H k.seed p0) e) :
    (hssSign H cfg msg sk cb aux).map (fun o => (o.result, o.trace)) =
      (hssSign H cfg msg sk cb none).map (fun o => (o.result, o.trace)) :=
  sign_transparent H cfg msg sk cb aux fun k hk p0 hp0 =>
    auxOK_of_authenticated_true H cfg hK aux k.seed p0 fun buf e => hused k p0 buf e hk hp0

/-- Corollary (no hypothesis about contents at all): every buffer that is not marked as used - empty, or first byte 0
followed by anything, of any length - is transparent for key generation ... -/
theorem keygen_unmarked_buffer (H : HashFn) (cfg : Config) (hK : cfg.maxTreeHeight ≤ 30) (ps : List HssParam)
    (seed buf : Bytes) (hun : hss_is_aux_data_used buf = false) :
    (hssKeygen H cfg ps seed (some buf)).map (·.result) = (hssKeygen H cfg ps seed none).map (·.result) :=
  C10_keygen H cfg hK ps seed (some buf) fun p0 b e _ =>
    Lemmas.AuxLifecycle.honest_some_of_unmarked H cfg seed p0 hun b e

/-- ... and for signing. -/
theorem sign_unmarked_buffer (H : HashFn) (cfg : Config) (hK : cfg.maxTreeHeight ≤ 30) (msg sk : Bytes)
    (cb : Bytes → Bool) (buf : Bytes) (hun : hss_is_aux_data_used buf = false) :
    (hssSign H cfg msg sk cb (some buf)).map (fun o => (o.result, o.trace)) =
      (hssSign H cfg msg sk cb none).map (fun o => (o.result, o.trace)) :=
  C10_sign H cfg hK msg sk cb (some buf) fun k p0 b e _ _ =>
    Lemmas.AuxLifecycle.honest_some_of_unmarked H cfg k.seed p0 hun b e

/-- Corollary: a buffer that is marked as used but does not carry the MAC for this seed (wrong seed, truncated,
tampered) is transparent as well - it is never read. -/
theorem keygen_bad_mac_buffer (H : HashFn) (cfg : Config) (hK : cfg.maxTreeHeight ≤ 30) (ps : List HssParam)
    (seed buf : Bytes) (hbad : hss_expand_aux_data H cfg buf (some seed) = none) :
    (hssKeygen H cfg ps seed (some buf)).map (·.result) = (hssKeygen H cfg ps seed none).map (·.result) :=
  C10_keygen H cfg hK ps seed (some buf) fun p0 b e _ =>
    Lemmas.AuxLifecycle.honest_rejected H cfg seed p0 hbad b e

/-- ... and for signing; the MAC is keyed with the seed of the key the bytes parse to. -/
theorem sign_bad_mac_buffer (H : HashFn) (cfg : Config) (hK : cfg.maxTreeHeight ≤ 30) (msg sk : Bytes)
    (cb : Bytes → Bool) (buf : Bytes)
    (hbad : ∀ k, RefKey.parse H.n sk = some k → hss_expand_aux_data H cfg buf (some k.seed) = none) :
    (hssSign H cfg msg sk cb (some buf)).map (fun o => (o.result, o.trace)) =
      (hssSign H cfg msg sk cb none).map (fun o => (o.result, o.trace)) :=
  C10_sign H cfg hK msg sk cb (some buf) fun k p0 b e hk _ =>
    Lemmas.AuxLifecycle.honest_rejected H cfg k.seed p0 (hbad k hk) b e

end Props.C10

#print axioms Props.C10.cache_transparent
#print axioms Props.C10.treeNode_through_cache
#print axioms Props.C10.fresh_buffer_layers_zero
#print axioms Props.C10.fresh_buffer_invariant
#print axioms Props.C10.unmarked_buffer_invariant
#print axioms Props.C10.only_authenticated_read_back
#print axioms Props.C10.unauthenticated_not_read
#print axioms Props.C10.auxOK_of_authenticated_true
#print axioms Props.C10.lmsSign_same_signature
#print axioms Props.C10.keygen_transparent
#print axioms Props.C10.sign_transparent
#print axioms Props.C10.C10_keygen
#print axioms Props.C10.C10_sign
#print axioms Props.C10.keygen_unmarked_buffer
#print axioms Props.C10.sign_unmarked_buffer
#print axioms Props.C10.keygen_bad_mac_buffer
#print axioms Props.C10.sign_bad_mac_buffer
