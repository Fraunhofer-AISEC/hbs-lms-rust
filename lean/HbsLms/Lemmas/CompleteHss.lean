/-
Completeness of HSS: what `expandPrivateKey` returns without aux data, in closed form: the levels of the blob, their
public keys, and the signatures by each level over the next one's public key. These signed public keys form a chain
in which the key serialised in link `i` verifies link `i+1`, so the verifier accepts the chain followed by a
signature of the bottom level. (That `hssKeygen` returns the public key of the chain's top tree is in `KeygenRefine`.)
-/
import HbsLms.Lemmas.CompleteLms
import HbsLms.Lemmas.Limits
import HbsLms.Lemmas.NormalForm

namespace Lemmas.Complete

open Impl Generated Lemmas.Layout

/-- `n16`: the derived identifiers have `min 16 n` bytes (`rootKey_good`) -/
structure GoodParam (n : Nat) (p : HssParam) : Prop where
  ots : Params.lmotsGetFromType n p.ots.typeId = some p.ots
  lms : Params.lmsGetFromType p.lms.typeId = some p.lms
  n16 : 16 ≤ n

theorem GoodParam.of_paramsOk {cfg : Config} {n : Nat} {ps : List HssParam} (hok : ParamsOk cfg n ps) {p : HssParam}
    (hp : p ∈ ps) : GoodParam n p := by
  obtain ⟨i, hi, rfl⟩ := List.getElem_of_mem hp
  have ho := ots_row_props (hok.level i hi).ots
  exact ⟨ho.getFromType, (lms_row_props (hok.level i hi).lms).getFromType, ho.n_ge⟩

/-- randomizer with which a level signs its child's public key -/
def linkC (H : HashFn) (parent : Level) : Bytes :=
  signatureRandomizer H (childSeedAndId H parent.key.seed parent.key.I parent.q).1
    (childSeedAndId H parent.key.seed parent.key.I parent.q).2 parent.q

theorem linkC_length (H : HashFn) (parent : Level) : (linkC H parent).length = H.n := signatureRandomizer_length H _ _ _

/-- the LMS signatures of `Expanded.sigs`: each level of `parent :: cs` but the last signs the public key of the next -/
def sigsOf (H : HashFn) : Level → List Level → List Bytes
  | _, [] => []
  | parent, c :: cs => lmsSigBytes H parent.key parent.q (pkBytes H c.key) (linkC H parent) :: sigsOf H c cs

/-- every level of `parent :: cs` but the last has its current leaf inside its tree (the last one signs the message, and
`lmsSign` checks its leaf then) -/
def qsOk : Level → List Level → Prop
  | _, [] => True
  | parent, c :: cs => parent.q < 2 ^ parent.key.lms.h ∧ qsOk c cs

/-- the last of `parent :: cs`, the level that signs the message (`getLast?_cons_eq_lastLevel`); on the levels of a key
it is `Layout.bottomLevel`, which is `Positions.levelAt … rest.length` (`Positions.bottomLevel_eq_levelAt`) -/
def lastLevel : Level → List Level → Level
  | parent, [] => parent
  | _, c :: cs => lastLevel c cs

theorem sigsOf_length (H : HashFn) : ∀ (cs : List Level) (parent : Level), (sigsOf H parent cs).length = cs.length := by
  intro cs
  induction cs with
  | nil => intro _; rfl
  | cons c cs ih => intro _; simp [sigsOf, ih]

end Lemmas.Complete

namespace Lemmas.Layout

open Impl Lemmas.Complete

/-- what `HssPrivateKey::from` computes for the blob `(c, p0 :: rest, seed)`: the levels, the serialised public keys of
levels 1 … L-1 and the signatures by levels 0 … L-2 over them -/
def expandedOf (H : HashFn) (seed : Bytes) (p0 : HssParam) (rest : List HssParam) (c : Nat) : Expanded :=
  ⟨topLevel H seed p0 rest c :: lowerLevels H seed p0 rest c,
   (lowerLevels H seed p0 rest c).map (fun l => pkBytes H l.key),
   sigsOf H (topLevel H seed p0 rest c) (lowerLevels H seed p0 rest c)⟩

end Lemmas.Layout

namespace Lemmas.Complete

open Impl Generated Lemmas.Layout

/-- The induction goes through because what the level loop appends to the accumulator is a function of the parent
level and the remaining parameters only. -/
theorem go_closed (H : HashFn) (cfg : Config) (leaves : List Nat) : ∀ (rest : List HssParam) (i : Nat) (parent : Level)
    (acc : Expanded) (live : Bool) (ex : Expanded) (e : Option ExpAux),
    expandPrivateKey.go H cfg leaves i rest parent acc none live = .ok (some (ex, e)) →
    e = none ∧
    ex = ⟨acc.levels ++ childrenOf H leaves i parent rest,
          acc.pubs ++ (childrenOf H leaves i parent rest).map (fun c => pkBytes H c.key),
          acc.sigs ++ sigsOf H parent (childrenOf H leaves i parent rest)⟩ ∧
    qsOk parent (childrenOf H leaves i parent rest) := by
  intro rest
  induction rest with
  | nil =>
    intro i parent acc live ex e h
    obtain ⟨rfl, rfl⟩ := Prod.mk.inj (Option.some.inj (P.pure_eq_ok.1 h))
    exact ⟨rfl, by simp only [childrenOf, sigsOf, List.map_nil, List.append_nil], trivial⟩
  | cons p rest ih =>
    intro i parent acc live ex e h
    simp only [expandPrivateKey.go, treeNode_root, ite_self] at h
    obtain ⟨-, h⟩ := P.require_bind_eq_ok.1 h
    obtain ⟨v, hv, h⟩ := P.bind_eq_ok.1 h
    cases v with
    | none => cases h
    | some sa =>
      obtain ⟨sig, aux'⟩ := sa
      obtain ⟨hq, -, rfl, rfl⟩ := lmsSign_none_inv hv
      simp only [ite_self] at h
      obtain ⟨he, hex, hqs⟩ := ih _ (childLevel H parent p (leaves.getD i 0)) _ _ _ _ h
      refine ⟨he, ?_, hq, hqs⟩
      rw [hex]
      simp only [childrenOf, sigsOf, List.map_cons, List.append_assoc, List.cons_append, List.nil_append]
      rfl

/-- the signed public keys of the chain as `parseSignedPks` returns them -/
def spksOf (H : HashFn) : Level → List Level → List (InMemLmsSig × InMemLmsPk)
  | _, [] => []
  | parent, c :: cs =>
    (lmsSigParsed H parent.key parent.q (pkBytes H c.key) (linkC H parent), lmsPkParsed H c.key) :: spksOf H c cs

/-- the signed public keys of the chain as they stand in the HSS signature: `sigsOf` and the public keys interleaved
(`flatten_zipWith_sigsOf`) -/
def spkBytes (H : HashFn) : Level → List Level → Bytes
  | _, [] => []
  | parent, c :: cs =>
    lmsSigBytes H parent.key parent.q (pkBytes H c.key) (linkC H parent) ++ pkBytes H c.key ++ spkBytes H c cs

theorem flatten_zipWith_sigsOf (H : HashFn) : ∀ (cs : List Level) (parent : Level),
    (List.zipWith (· ++ ·) (sigsOf H parent cs) (cs.map fun c => pkBytes H c.key)).flatten = spkBytes H parent cs := by
  intro cs
  induction cs with
  | nil => intro _; simp [sigsOf, spkBytes]
  | cons c cs ih => intro parent; simp [sigsOf, spkBytes, ih, List.append_assoc]

theorem parseSignedPk_link (H : HashFn) (parent c : Level) (more : Bytes) (gp : GoodKey H.n parent.key)
    (gc : GoodKey H.n c.key) (hq : parent.q < 2 ^ parent.key.lms.h) :
    parseSignedPk H.n (lmsSigBytes H parent.key parent.q (pkBytes H c.key) (linkC H parent) ++ pkBytes H c.key ++ more)
      = some (lmsSigParsed H parent.key parent.q (pkBytes H c.key) (linkC H parent), lmsPkParsed H c.key,
          (lmsSigBytes H parent.key parent.q (pkBytes H c.key) (linkC H parent) ++ pkBytes H c.key).length) := by
  unfold parseSignedPk
  have hC := linkC_length H parent
  rw [List.append_assoc, lmsSig_parse H parent.key parent.q _ _ _ gp hC hq]
  simp only [Option.bind_eq_bind, Option.bind_some, lmsSigParsed_len]
  rw [← lmsSigBytes_length H parent.key parent.q (pkBytes H c.key) (linkC H parent) hC, List.drop_left]
  rw [lmsPk_parse H c.key more gc]
  simp only [Option.bind_some, pure, List.length_append, pkBytes_length H c.key gc.I]

theorem parseSignedPks_chain (H : HashFn) : ∀ (cs : List Level) (parent : Level) (tail : Bytes)
    (acc : List (InMemLmsSig × InMemLmsPk)), GoodKey H.n parent.key → (∀ c ∈ cs, GoodKey H.n c.key) → qsOk parent cs →
    parseSignedPks H.n cs.length (spkBytes H parent cs ++ tail) acc = some (acc ++ spksOf H parent cs, tail) := by
  intro cs
  induction cs with
  | nil => intro parent tail acc _ _ _; simp [parseSignedPks, spkBytes, spksOf]
  | cons c cs ih =>
    intro parent tail acc gp hall hqs
    have gc : GoodKey H.n c.key := hall c (by simp)
    simp only [List.length_cons, parseSignedPks, spkBytes]
    rw [List.append_assoc, parseSignedPk_link H parent c _ gp gc hqs.1]
    simp only []
    rw [List.drop_left, ih c tail _ gc (fun c' hc' => hall c' (by simp [hc'])) hqs.2]
    simp [spksOf]

theorem verifyChain_chain (H : HashFn) : ∀ (cs : List Level) (parent : Level), GoodKey H.n parent.key →
    (∀ c ∈ cs, GoodKey H.n c.key) → qsOk parent cs →
    verifyChain H (spksOf H parent cs) (lmsPkParsed H parent.key)
      = .ok (some (lmsPkParsed H (lastLevel parent cs).key)) := by
  intro cs
  induction cs with
  | nil => intro parent _ _ _; rfl
  | cons c cs ih =>
    intro parent gp hall hqs
    have gc : GoodKey H.n c.key := hall c (by simp)
    simp only [spksOf, verifyChain, lastLevel]
    have hv := lmsVerify_released H parent.key parent.q (pkBytes H c.key) (linkC H parent) gp hqs.1
    have hcomp : (lmsPkParsed H c.key).complete = pkBytes H c.key := rfl
    rw [hcomp, hv]
    simp only [P.ok_bind, if_true]
    exact ih c gc (fun c' hc' => hall c' (by simp [hc'])) hqs.2

theorem getLast?_cons_eq_lastLevel : ∀ (cs : List Level) (parent : Level),
    (parent :: cs).getLast? = some (lastLevel parent cs) := by
  intro cs
  induction cs with
  | nil => intro _; rfl
  | cons c cs ih => intro parent; rw [List.getLast?_cons_cons, ih c]; rfl

/-- Both byte strings parse back to the structures they were serialised from (`hsig` with `parseSignedPks_chain`, `hpk`),
the chain of signed public keys verifies link by link (`verifyChain_chain`), and what is left is the LMS verification
of the message under the last level's key. `hL32`: the level count is written into four bytes. -/
theorem hssVerify_chain (H : HashFn) (cfg : Config) (top : Level) (children : List Level) (msg C : Bytes)
    (gt : GoodKey H.n top.key) (hall : ∀ c ∈ children, GoodKey H.n c.key) (hqs : qsOk top children)
    (hC : C.length = H.n) (hqb : (lastLevel top children).q < 2 ^ (lastLevel top children).key.lms.h)
    (hL : children.length + 1 ≤ cfg.maxLevels) (hL32 : children.length + 1 < 2 ^ 32) :
    hssVerify H cfg msg
      (Bytes.u32be children.length ++ spkBytes H top children ++
        lmsSigBytes H (lastLevel top children).key (lastLevel top children).q msg C)
      (Bytes.u32be (children.length + 1) ++ pkBytes H top.key) = .ok true := by
  have gb : GoodKey H.n (lastLevel top children).key := by
    rcases List.mem_cons.1 (List.mem_of_getLast? (getLast?_cons_eq_lastLevel children top)) with h | h
    · rw [h]; exact gt
    · exact hall _ h
  have hsig : InMemHssSig.parse cfg H.n
      (Bytes.u32be children.length ++ spkBytes H top children ++
        lmsSigBytes H (lastLevel top children).key (lastLevel top children).q msg C)
      = some ⟨children.length, spksOf H top children,
          lmsSigParsed H (lastLevel top children).key (lastLevel top children).q msg C⟩ := by
    unfold InMemHssSig.parse
    have r1 : readAt (Bytes.u32be children.length ++ spkBytes H top children ++
        lmsSigBytes H (lastLevel top children).key (lastLevel top children).q msg C) 4 0
        = some (Bytes.u32be children.length) :=
      readAt_of_eq (pre := []) (post := spkBytes H top children ++
        lmsSigBytes H (lastLevel top children).key (lastLevel top children).q msg C)
        (by simp [List.append_assoc]) rfl (Bytes.u32be_length _).symm
    rw [r1]
    simp only [Bytes.toNat_u32be_of_lt (Nat.lt_of_succ_lt hL32)]
    have hlv : ¬ children.length > cfg.maxLevels - 1 := Nat.not_lt.2 (Nat.le_sub_one_of_lt hL)
    simp only [hlv, if_false]
    rw [List.append_assoc, List.drop_left' (Bytes.u32be_length _),
      parseSignedPks_chain H children top _ [] gt hall hqs]
    simp only [List.nil_append]
    have hp := lmsSig_parse H (lastLevel top children).key (lastLevel top children).q msg C [] gb hC hqb
    rw [List.append_nil] at hp
    rw [hp]
    simp only [lmsSigParsed_len, lmsSigBytes_length _ _ _ _ _ hC, bne_self_eq_false, Bool.false_eq_true, if_false]
  have hpk : parseHssPk H.n (Bytes.u32be (children.length + 1) ++ pkBytes H top.key)
      = some (children.length + 1, lmsPkParsed H top.key) := by
    unfold parseHssPk
    have r1 : readAt (Bytes.u32be (children.length + 1) ++ pkBytes H top.key) 4 0
        = some (Bytes.u32be (children.length + 1)) :=
      readAt_of_eq (pre := []) (post := pkBytes H top.key) (by simp) rfl (Bytes.u32be_length _).symm
    have hp := lmsPk_parse H top.key [] gt
    rw [List.append_nil] at hp
    rw [r1, List.drop_left' (Bytes.u32be_length _)]
    simp only [Option.bind_eq_bind, Option.bind_some, hp, Bytes.toNat_u32be_of_lt hL32, List.length_append, Bytes.u32be_length]
    have : (lmsPkParsed H top.key).complete = pkBytes H top.key := rfl
    -- no bytes are left over after the key
    simp only [this, Nat.add_sub_cancel_left, bne_self_eq_false, Bool.false_eq_true, if_false]
    rfl
  unfold hssVerify
  rw [hsig, hpk]
  simp only [hssVerifyParsed, bne_self_eq_false, Bool.false_eq_true, if_false]
  rw [verifyChain_chain H children top gt hall hqs]
  simp only [P.ok_bind]
  exact lmsVerify_released H _ _ msg C gb hqb

theorem rootKey_good (H : HashFn) (seed : Bytes) (p0 : HssParam) (g : GoodParam H.n p0) : GoodKey H.n (rootKey H seed p0) :=
  ⟨g.ots, g.lms, (rootSeedAndId_I_length H seed).trans (Nat.min_eq_left g.n16)⟩

theorem childLevel_good {H : HashFn} {parent : Level} {p : HssParam} {q : Nat} (g : GoodParam H.n p) :
    GoodKey H.n (childLevel H parent p q).key :=
  ⟨g.ots, g.lms, (childSeedAndId_I_length H _ _ _).trans (Nat.min_eq_left g.n16)⟩

theorem levels_good {H : HashFn} {cfg : Config} {bs : Bytes} {p0 : HssParam} {rest : List HssParam}
    (hps : paramsOfBytes cfg H.n bs = some (p0 :: rest)) (seed : Bytes) (c : Nat) :
    GoodKey H.n (topLevel H seed p0 rest c).key ∧ ∀ l ∈ lowerLevels H seed p0 rest c, GoodKey H.n l.key := by
  have hok := ParamsOk.of_paramsOfBytes hps
  have gt := rootKey_good H seed p0 (.of_paramsOk hok List.mem_cons_self)
  exact ⟨gt, childrenOf_forall H _ (P := fun l => GoodKey H.n l.key) rest 1 _
    (fun _ p _ hp _ => childLevel_good (.of_paramsOk hok (List.mem_cons_of_mem _ hp))) gt⟩

theorem expandPrivateKey_closed {H : HashFn} {cfg : Config} {k : RefKey} {ex : Expanded} {e : Option ExpAux}
    (h : expandPrivateKey H cfg k none = .ok (some (ex, e))) :
    ∃ p0 rest, paramsOfBytes cfg H.n k.params = some (p0 :: rest) ∧ e = none ∧
      ex = expandedOf H k.seed p0 rest k.counter ∧
      qsOk (topLevel H k.seed p0 rest k.counter) (lowerLevels H k.seed p0 rest k.counter) := by
  obtain ⟨p0, rest, hps, -⟩ := expandPrivateKey_levels h
  rw [expandPrivateKey_of_params hps] at h
  obtain ⟨he, hex, hqs⟩ := go_closed H cfg _ rest 1 _ _ true ex e h
  exact ⟨p0, rest, hps, he, hex, hqs⟩

end Lemmas.Complete
