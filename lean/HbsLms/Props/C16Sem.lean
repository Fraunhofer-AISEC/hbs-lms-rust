/-
C16, what the checks mean: for EVERY declaration table, the decidable checks of `Impl/Zeroize.lean` imply that no
secret byte survives in the value model of `Impl/ZeroizeSem.lean`. Case (a) of `wipedOnDrop` does not look at the
types of the non-skipped fields: in Rust the derive only compiles if they implement `Zeroize`, in the model a struct
that does not derive it is left unchanged by `zeroize()`. So the per-index statements need `DeriveSound` /
`ZeroizeSound`; `SecretsCovered` implies the former, and without it the statement is false (`S1_needs_deriveSound`).
Names: `S1_` what the drop checks mean for values, `S2_` the same for `zeroize()`, `S3_` both at the generated table.
-/
import HbsLms.Lemmas.ZeroizeSem
import HbsLms.Props.C16

namespace Props.C16Sem

open Generated Impl.Zeroize Impl.ZeroizeSem

/-- `owners ds` is a fixed point of the closure step, for every table (so `ds.length` iterations suffice). -/
theorem owners_closed (ds : List StructDecl) : ownersStep ds (owners ds) = owners ds :=
  ownersStep_owners ds

/-- Every struct that can hold a secret byte is in `owners ds`: a well-typed value of a struct outside the closure
contains no secret byte at all, at any depth. -/
theorem non_owner_holds_no_secret (ds : List StructDecl) (i : Nat) (fs : List Val)
    (hwt : WellTyped ds (.struct i fs) = true) (hi : ¬ i ∈ owners ds) :
    secretsLeft (.struct i fs) = 0 :=
  secretsLeft_of_not_mem_owners ds i fs hwt hi

/-- `zeroize()` and `drop` never create secret bytes (any table, any value, typed or not). -/
theorem zeroize_and_drop_monotone (ds : List StructDecl) (v : Val) :
    secretsLeft (zeroizeVal ds v) ≤ secretsLeft v ∧ secretsLeft (dropVal ds v) ≤ secretsLeft v :=
  ⟨secretsLeft_zeroizeVal_le ds v, secretsLeft_dropVal_le ds v⟩

/-- If `wipedOnDrop` accepts struct `i`, no secret byte of a well-typed value of `i` survives the drop. Any fuel and
no acyclicity assumption: the induction is along `dropVal`, not on the fuel. -/
theorem S1_wipedOnDrop_sound (ds : List StructDecl) (hD : DeriveSound ds = true) (i fuel : Nat)
    (hw : wipedOnDrop ds (owners ds) fuel i = true) (fs : List Val)
    (hwt : WellTyped ds (.struct i fs) = true) :
    secretsLeft (dropVal ds (.struct i fs)) = 0 :=
  fieldDropOk ds hD _ (ownerField i) (fieldWt_ownerField hwt) (fun h => nomatch h)
    (forall_owns_ownerField fun _ => ⟨fuel, hw⟩)

theorem secretsCovered_deriveSound (ds : List StructDecl) (h : SecretsCovered ds = true) :
    DeriveSound ds = true :=
  deriveSound_of_secretsCovered h

/-- If the check `SecretsCovered ds` holds, dropping ANY well-typed struct value (secret-bearing or not) leaves no
secret byte behind. -/
theorem S1_secretsCovered_sound (ds : List StructDecl) (h : SecretsCovered ds = true) (i : Nat) (fs : List Val)
    (hwt : WellTyped ds (.struct i fs) = true) :
    secretsLeft (dropVal ds (.struct i fs)) = 0 := by
  by_cases hi : i ∈ owners ds
  · have hw : wipedOnDrop ds (owners ds) ds.length i = true := by
      simp only [SecretsCovered, List.all_eq_true] at h
      exact h i hi
    exact S1_wipedOnDrop_sound ds (secretsCovered_deriveSound ds h) i ds.length hw fs hwt
  · exact secretsLeft_dropVal_zero (non_owner_holds_no_secret ds i fs hwt hi)

/-- `zeroize()` clears every secret byte of a struct accepted by `wipedByZeroize`: those it stores itself and those of
all owned structs, which `ZeroizeSound` requires to pass `wipedByZeroize` themselves. -/
theorem S2_wipedByZeroize_sound (ds : List StructDecl) (hZ : ZeroizeSound ds = true) (i : Nat)
    (hw : wipedByZeroize ds (owners ds) i = true) (fs : List Val)
    (hwt : WellTyped ds (.struct i fs) = true) :
    secretsLeft (zeroizeVal ds (.struct i fs)) = 0 :=
  zeroizeOk_val ds hZ _ (ownerField i) (fieldWt_ownerField hwt) (forall_owns_ownerField fun _ => hw)

/-- With no assumption on the table, `wipedByZeroize` alone: `zeroize()` processes every non-skipped field, and
afterwards each field that stores secret bytes itself, and each field that carries no secret, is free of secret
bytes. (Fields owning secret-bearing structs are cleared as far as those structs are `wipedByZeroize`.) -/
theorem S2_wipedByZeroize_direct (ds : List StructDecl) (i : Nat) (d : StructDecl) (hd : declAt ds i = some d)
    (hw : wipedByZeroize ds (owners ds) i = true) (fs : List Val)
    (hwt : WellTyped ds (.struct i fs) = true) :
    zeroizeVal ds (.struct i fs) = .struct i (zeroizeFields ds d.fields fs) ∧
      ∀ p ∈ List.zip d.fields (zeroizeFields ds d.fields fs),
        (p.1.rawSecret = true ∨ fieldSecret (owners ds) p.1 = false) → secretsLeft p.2 = 0 := by
  rw [wipedByZeroize_unfold hd] at hw
  simp only [Bool.and_eq_true, List.all_eq_true, Bool.not_eq_true'] at hw
  simp only [WellTyped, hd] at hwt
  refine ⟨by simp only [zeroizeVal, hd, hw.1, if_true], ?_⟩
  exact zeroizeFields_direct ds fs d.fields hwt hw.2

/-- Under both checks, `zeroize()` clears ANY well-typed value of a struct that derives `Zeroize` or stores secret
bytes itself: a secret-bearing one passes `wipedByZeroize` by `ZeroizeCovered`, any other holds no secret byte to
begin with. -/
theorem S2_zeroizeCovered_sound (ds : List StructDecl) (hZ : ZeroizeSound ds = true) (hC : ZeroizeCovered ds = true)
    (i : Nat) (d : StructDecl) (hd : declAt ds i = some d) (hz : (d.zeroize || d.fields.any (·.rawSecret)) = true)
    (fs : List Val) (hwt : WellTyped ds (.struct i fs) = true) :
    secretsLeft (zeroizeVal ds (.struct i fs)) = 0 := by
  by_cases hi : i ∈ owners ds
  · have hw := List.all_eq_true.1 hC i hi
    rw [hd] at hw
    exact S2_wipedByZeroize_sound ds hZ i (by simpa only [hz, if_true] using hw) fs hwt
  · exact secretsLeft_zeroizeVal_zero (non_owner_holds_no_secret ds i fs hwt hi)

theorem S3_generated_wiped_on_drop_all (i : Nat) (fs : List Val)
    (hwt : WellTyped structDecls (.struct i fs) = true) :
    secretsLeft (dropVal structDecls (.struct i fs)) = 0 :=
  S1_secretsCovered_sound structDecls Props.C16.secrets_covered_on_drop i fs hwt

/-- For the generated table: every well-typed value of a secret-bearing struct leaves no secret byte behind
when it goes out of scope. -/
theorem S3_generated_wiped_on_drop (i : Nat) (_hi : i ∈ owners structDecls) (fs : List Val)
    (hwt : WellTyped structDecls (.struct i fs) = true) :
    secretsLeft (dropVal structDecls (.struct i fs)) = 0 :=
  S3_generated_wiped_on_drop_all i fs hwt

/-- field values of a populated instance of a struct with the given fields: every raw-secret field holds two non-zero secret
bytes, every owning field holds a container with a populated value of a struct it owns (a secret-bearing one if there is
one), every other field holds non-secret bytes -/
def sampleFields (ds : List StructDecl) (own : List Nat) : Nat → List FieldDecl → List Val
  | 0, fs => fs.map fun f => if f.rawSecret then .raw true [9, 5] else .raw false [1, 2]
  | fuel + 1, fs => fs.map fun f =>
      if f.rawSecret then .raw true [9, 5]
      else match (f.owns.find? (own.contains ·)).orElse (fun _ => f.owns.head?) with
        | none => .raw false [1, 2]
        | some j =>
          match declAt ds j with
          | none => .raw false [1, 2]
          | some d => .many [.struct j (sampleFields ds own fuel d.fields)]

/-- a populated value of every secret-bearing struct of the generated table. No struct index, name or field order is
written down here, so that a behaviour-preserving rearrangement of the declarations in the Rust sources leaves the
statements about `samples` valid -/
def samples : List (Nat × List Val) :=
  (owners structDecls).filterMap fun i =>
    (declAt structDecls i).map fun d => (i, sampleFields structDecls (owners structDecls) structDecls.length d.fields)

/-- the verdicts of this file on the regenerated table, by one kernel evaluation (`owners structDecls` is computed once) -/
theorem generated_verdicts :
    ZeroizeSound structDecls = true ∧
    (2 ≤ samples.length ∧
      samples.all (fun p => WellTyped structDecls (.struct p.1 p.2) && decide (0 < secretsLeft (.struct p.1 p.2))) = true) ∧
    (samples.filter fun p => wipedByZeroize structDecls (owners structDecls) p.1).length ≥ 1 := by
  decide +kernel

theorem generated_deriveSound : DeriveSound structDecls = true :=
  secretsCovered_deriveSound _ Props.C16.secrets_covered_on_drop

/-- For the generated table: every struct accepted by `wipedByZeroize` is cleared completely by an explicit
`zeroize()`. -/
theorem S3_generated_wiped_by_zeroize (i : Nat)
    (hw : wipedByZeroize structDecls (owners structDecls) i = true) (fs : List Val)
    (hwt : WellTyped structDecls (.struct i fs) = true) :
    secretsLeft (zeroizeVal structDecls (.struct i fs)) = 0 :=
  S2_wipedByZeroize_sound structDecls generated_verdicts.1 i hw fs hwt

/-- the structs this applies to: every secret-bearing struct that derives `Zeroize` or stores secret bytes itself
(`Props.C16.secrets_covered_by_zeroize`) -/
theorem S3_generated_zeroize_covered (i : Nat) (hi : i ∈ owners structDecls) (d : StructDecl)
    (hd : declAt structDecls i = some d) (hz : (d.zeroize || d.fields.any (·.rawSecret)) = true)
    (fs : List Val) (hwt : WellTyped structDecls (.struct i fs) = true) :
    secretsLeft (zeroizeVal structDecls (.struct i fs)) = 0 :=
  S2_zeroizeCovered_sound structDecls generated_verdicts.1 Props.C16.secrets_covered_by_zeroize i d hd hz fs hwt

/-- there are secret-bearing structs, every sample is a well-typed value of its struct and does contain secret bytes -/
theorem samples_nonvacuous :
    2 ≤ samples.length ∧
    samples.all (fun p => WellTyped structDecls (.struct p.1 p.2) && decide (0 < secretsLeft (.struct p.1 p.2))) = true :=
  generated_verdicts.2.1

theorem sample_mem {p : Nat × List Val} (hp : p ∈ samples) :
    WellTyped structDecls (.struct p.1 p.2) = true ∧ 0 < secretsLeft (.struct p.1 p.2) := by
  have h := List.all_eq_true.1 samples_nonvacuous.2 p hp
  simpa only [Bool.and_eq_true, decide_eq_true_eq] using h

/-- the secrets are gone after the drop (S3 applied to concrete values that do contain secret bytes) -/
theorem samples_wiped_on_drop : ∀ p ∈ samples, 0 < secretsLeft (.struct p.1 p.2) ∧
    secretsLeft (dropVal structDecls (.struct p.1 p.2)) = 0 :=
  fun p hp => ⟨(sample_mem hp).2, S3_generated_wiped_on_drop_all p.1 p.2 (sample_mem hp).1⟩

/-- ... and after an explicit `zeroize()` of every sampled struct that `wipedByZeroize` covers; there is at least one -/
theorem samples_wiped_by_zeroize : ∀ p ∈ samples, wipedByZeroize structDecls (owners structDecls) p.1 = true →
    secretsLeft (zeroizeVal structDecls (.struct p.1 p.2)) = 0 :=
  fun p hp hw => S3_generated_wiped_by_zeroize p.1 hw p.2 (sample_mem hp).1

example : (samples.filter fun p => wipedByZeroize structDecls (owners structDecls) p.1).length ≥ 1 := generated_verdicts.2.2

/-- a hand-written table to watch the model compute: a seed wrapper, a parameter struct, a key that skips its parameters -/
def illu : List StructDecl :=
  [⟨0, "illu.rs", "Seed", ["Zeroize", "ZeroizeOnDrop"], true, true, [⟨"data", "ArrayVecZeroize<u8, 32>", false, [], true⟩, ⟨"phantom", "PhantomData<H>", false, [], false⟩]⟩,
   ⟨1, "illu.rs", "Param", [], false, false, [⟨"type_id", "u32", false, [], false⟩]⟩,
   ⟨2, "illu.rs", "PrivateKey", ["Zeroize", "ZeroizeOnDrop"], true, true,
     [⟨"id", "[u8; 4]", false, [], false⟩, ⟨"used", "u32", false, [], false⟩, ⟨"seed", "Seed<H>", false, [0], false⟩, ⟨"param", "Param", true, [1], false⟩]⟩]

def illuParam : Val := .struct 1 [.raw false [0, 0, 0, 5]]
def illuSeed : Val := .struct 0 [.raw true [0x17, 0x2a, 0xff], .raw false []]
def illuKey : Val := .struct 2 [.raw false [1, 2, 3, 4], .raw false [0, 0, 0, 7], illuSeed, illuParam]

example : WellTyped illu illuKey = true ∧ secretsLeft illuKey = 3 ∧ SecretsCovered illu = true := by decide +kernel

/-- `zeroize()` clears the non-skipped fields (also the non-secret ones) and leaves the skipped parameter field alone -/
example : zeroizeVal illu illuKey =
    .struct 2 [.raw false [0, 0, 0, 0], .raw false [0, 0, 0, 0], .struct 0 [.raw true [0, 0, 0], .raw false []], illuParam] := by rfl

example : secretsLeft (dropVal illu illuKey) = 0 :=
  S1_secretsCovered_sound illu (by decide +kernel) 2 _ (by decide +kernel)

/-! Bad tables: the check fails and a secret survives. -/

/-- a struct that marks its secret field `#[zeroize(skip)]` -/
def badSkip : List StructDecl :=
  [⟨0, "bad.rs", "Leaky", ["Zeroize", "ZeroizeOnDrop"], true, true, [⟨"key", "[u8; 32]", true, [], true⟩]⟩]

/-- a struct that stores secret bytes and derives nothing -/
def badPlain : List StructDecl :=
  [⟨0, "bad.rs", "Plain", [], false, false, [⟨"key", "[u8; 32]", false, [], true⟩]⟩]

/-- a `Zeroize + ZeroizeOnDrop` wrapper around a struct that stores secret bytes and derives nothing
(does not compile in Rust; in the model `zeroize()` leaves the inner struct unchanged) -/
def badWrap : List StructDecl :=
  [⟨0, "bad.rs", "Wrapper", ["Zeroize", "ZeroizeOnDrop"], true, true, [⟨"inner", "Plain", false, [1], false⟩]⟩,
   ⟨1, "bad.rs", "Plain", [], false, false, [⟨"key", "[u8; 32]", false, [], true⟩]⟩]

def leakyVal : Val := .struct 0 [.raw true [7]]
def wrapVal : Val := .struct 0 [.struct 1 [.raw true [7]]]

example : SecretsCovered badSkip = false ∧ WellTyped badSkip leakyVal = true ∧
    secretsLeft (dropVal badSkip leakyVal) = 1 := by
  decide +kernel

example : SecretsCovered badPlain = false ∧ WellTyped badPlain leakyVal = true ∧
    secretsLeft (dropVal badPlain leakyVal) = 1 := by
  decide +kernel

/-- `S1_wipedOnDrop_sound` really needs `DeriveSound`: in `badWrap`, struct 0 passes `wipedOnDrop` (it derives both traits
and skips nothing), yet the secret of the inner struct survives - and `DeriveSound` / `SecretsCovered` are false. -/
theorem S1_needs_deriveSound :
    wipedOnDrop badWrap (owners badWrap) badWrap.length 0 = true ∧ WellTyped badWrap wrapVal = true ∧
      secretsLeft (dropVal badWrap wrapVal) = 1 ∧ DeriveSound badWrap = false ∧
      SecretsCovered badWrap = false := by
  decide +kernel

end Props.C16Sem

#print axioms Props.C16Sem.owners_closed
#print axioms Props.C16Sem.non_owner_holds_no_secret
#print axioms Props.C16Sem.zeroize_and_drop_monotone
#print axioms Props.C16Sem.S1_wipedOnDrop_sound
#print axioms Props.C16Sem.secretsCovered_deriveSound
#print axioms Props.C16Sem.S1_secretsCovered_sound
#print axioms Props.C16Sem.S2_wipedByZeroize_sound
#print axioms Props.C16Sem.S2_wipedByZeroize_direct
#print axioms Props.C16Sem.S3_generated_wiped_on_drop
#print axioms Props.C16Sem.S3_generated_wiped_on_drop_all
#print axioms Props.C16Sem.generated_deriveSound
#print axioms Props.C16Sem.S3_generated_wiped_by_zeroize
#print axioms Props.C16Sem.S3_generated_zeroize_covered
#print axioms Props.C16Sem.S1_needs_deriveSound
#print axioms Props.C16Sem.samples_nonvacuous
#print axioms Props.C16Sem.samples_wiped_on_drop
#print axioms Props.C16Sem.samples_wiped_by_zeroize
#print axioms Props.C16Sem.S2_zeroizeCovered_sound
