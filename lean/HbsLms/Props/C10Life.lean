/-
C10, life cycle: `Honest` is the `hused` hypothesis of `Props.C10.C10_keygen` / `C10_sign` for one buffer. It holds for
absent, unmarked and MAC-rejected buffers and is preserved by `hssKeygen` and `hssSign`, so along a session that starts
from an unmarked caller buffer every call returns what it returns without auxiliary data. No MAC reasoning is needed:
an operation writes back `ExpAux.bytes e` for a view `e` that satisfies the cache invariant, and re-expanding those
bytes gives back the same levels (`roundtrip_layers`) whatever the MAC bytes behind them are. A later call that accepts
the buffer reads true nodes; one that rejects it (stale MAC: `hssSign` never re-MACs, `hssKeygen` only buffers that were
unmarked on entry) ignores it. `cfg.maxTreeHeight ≤ 30`: see the head of Props/C10.
-/
import HbsLms.Lemmas.AuxLifecycle
import HbsLms.Props.C10

namespace Props.C10Life

open Impl Lemmas.AuxCache Lemmas.AuxLifecycle

/-- `Honest`, spelled out. -/
theorem honest_def (H : HashFn) (cfg : Config) (seed : Bytes) (p0 : HssParam) (aux : Option Bytes) :
    Honest H cfg seed p0 aux ↔
      ∀ buf e, aux = some buf → hss_is_aux_data_used buf = true →
        hss_expand_aux_data H cfg buf (some seed) = some e → CacheTrue H (topKey H seed p0) e := Iff.rfl

/-- no buffer -/
theorem honest_absent (H : HashFn) (cfg : Config) (seed : Bytes) (p0 : HssParam) : Honest H cfg seed p0 none :=
  honest_none H cfg seed p0

/-- unmarked buffers (empty, or first byte 0 followed by anything) -/
theorem honest_of_unmarked (H : HashFn) (cfg : Config) (seed : Bytes) (p0 : HssParam) (buf : Bytes)
    (hun : hss_is_aux_data_used buf = false) : Honest H cfg seed p0 (some buf) :=
  honest_some_of_unmarked H cfg seed p0 hun

/-- buffers rejected by `hss_expand_aux_data` for this seed (wrong MAC, truncated, ...) -/
theorem honest_of_rejected (H : HashFn) (cfg : Config) (seed : Bytes) (p0 : HssParam) (buf : Bytes)
    (hbad : hss_expand_aux_data H cfg buf (some seed) = none) : Honest H cfg seed p0 (some buf) :=
  honest_rejected H cfg seed p0 hbad

/-- Whatever `hss_expand_aux_data` (with or without MAC check) makes of the bytes written back for a view that satisfies
the cache invariant and whose present levels are those its 4-byte level word announces, it has the same cached levels. -/
theorem roundtrip_layers (H : HashFn) (cfg : Config) (k : LmsKey) (e e' : ExpAux) (seed : Option Bytes)
    (h4 : e.head.length = 4)
    (hpat : e.layers.map Option.isSome = (auxSizes H cfg (Bytes.toNat e.head)).map (fun sz => sz != 0))
    (hc : CacheTrue H k e) (h : hss_expand_aux_data H cfg e.bytes seed = some e') : e'.layers = e.layers :=
  hss_expand_aux_data_bytes_layers ⟨h4, hpat⟩ hc h

/-- every view handed out by `hss_expand_aux_data` has that shape -/
theorem expanded_view_shape (H : HashFn) (cfg : Config) (aux : Bytes) (seed : Option Bytes) (e : ExpAux)
    (h : hss_expand_aux_data H cfg aux seed = some e) :
    e.head.length = 4 ∧
    e.layers.map Option.isSome = (auxSizes H cfg (Bytes.toNat e.head)).map (fun sz => sz != 0) :=
  ⟨(hss_expand_aux_data_auxShaped h).head_length, (hss_expand_aux_data_auxShaped h).cached⟩

/-- the tree code changes neither the level word nor the set of cached levels -/
theorem treeNode_keeps_frame (H : HashFn) (k : LmsKey) (r : Nat) (e : ExpAux) :
    ∃ e', (treeNode H k r (some e)).2 = some e' ∧ e'.head = e.head ∧
      e'.layers.map Option.isSome = e.layers.map Option.isSome := by
  obtain ⟨e', he', hf⟩ := oframe_some (oframe_treeNode H k r (some e))
  exact ⟨e', he', frame_head hf, frame_cached hf⟩

/-- If the buffer passed to `hssKeygen` is honest for `(seed, p0)`, so is the buffer it writes back. -/
theorem keygen_output_honest (H : HashFn) (cfg : Config) (hK : cfg.maxTreeHeight ≤ 30) (ps : List HssParam)
    (seed : Bytes) (aux : Option Bytes) (p0 : HssParam) (o : KeygenOutcome)
    (htop : keygenTop H cfg ps = some p0) (hh : Honest H cfg seed p0 aux)
    (h : hssKeygen H cfg ps seed aux = .ok o) : Honest H cfg seed p0 o.aux := by
  obtain ⟨hi, hv⟩ := getExpandedAuxData_auxInv H cfg hK aux seed p0 hh
  obtain ⟨a', hi', e⟩ := hssKeygen_reAux H cfg ps seed aux p0 htop rfl hi
  rw [e] at h
  obtain ⟨o', _, rfl⟩ := P.map_eq_ok.1 h
  exact auxAfter_honest hi' hv

/-- No hypothesis on contents: for ANY caller buffer that is absent or not marked as used (any length, any
content behind the marker byte), the buffer written back by `hssKeygen` is honest. -/
theorem keygen_output_honest_fresh (H : HashFn) (cfg : Config) (hK : cfg.maxTreeHeight ≤ 30) (ps : List HssParam)
    (seed : Bytes) (aux : Option Bytes) (p0 : HssParam) (o : KeygenOutcome)
    (htop : keygenTop H cfg ps = some p0) (hun : ∀ b, aux = some b → hss_is_aux_data_used b = false)
    (h : hssKeygen H cfg ps seed aux = .ok o) : Honest H cfg seed p0 o.aux :=
  keygen_output_honest H cfg hK ps seed aux p0 o htop (honest_unmarked H cfg seed p0 aux hun) h

/-- ... and for ANY marked buffer that `hss_expand_aux_data` rejects for this seed. -/
theorem keygen_output_honest_rejected (H : HashFn) (cfg : Config) (hK : cfg.maxTreeHeight ≤ 30) (ps : List HssParam)
    (seed buf : Bytes) (p0 : HssParam) (o : KeygenOutcome)
    (htop : keygenTop H cfg ps = some p0) (hbad : hss_expand_aux_data H cfg buf (some seed) = none)
    (h : hssKeygen H cfg ps seed (some buf) = .ok o) : Honest H cfg seed p0 o.aux :=
  keygen_output_honest H cfg hK ps seed (some buf) p0 o htop (honest_of_rejected H cfg seed p0 buf hbad) h

/-- Signing writes back an honest buffer, for key bytes that belong to `(seed, p0)` in the sense of `KeyFor` (this
includes key bytes that do not parse or whose parameter bytes do not decode, e.g. the wiped key: the buffer is handed
back untouched). -/
theorem sign_output_honest_keyFor (H : HashFn) (cfg : Config) (hK : cfg.maxTreeHeight ≤ 30) (msg sk : Bytes)
    (cb : Bytes → Bool) (aux : Option Bytes) (seed : Bytes) (p0 : HssParam) (o : SignOutcome)
    (hk : KeyFor H cfg seed p0 sk) (hh : Honest H cfg seed p0 aux) (h : hssSign H cfg msg sk cb aux = .ok o) :
    Honest H cfg seed p0 o.aux := by
  rcases signTop_cases H cfg sk with hun | ⟨k, p, hk', hst⟩
  · rw [hssSign_untouched hun] at h
    cases h
    exact hh
  · obtain ⟨rfl, rfl⟩ := hk k hk' p hst
    obtain ⟨hi, hv⟩ := getExpandedAuxData_auxInv H cfg hK aux k.seed p hh
    obtain ⟨a', hi', e⟩ := hssSign_reAux H cfg msg sk cb aux k p hk' hst rfl hi
    rw [e] at h
    obtain ⟨o', _, rfl⟩ := P.map_eq_ok.1 h
    exact auxAfter_honest hi' hv

/-- If the buffer passed to `hssSign` is honest for the key being used, so is the buffer it writes back (on
every exit: released signature, `Err`, rejected by the callback). -/
theorem sign_output_honest (H : HashFn) (cfg : Config) (hK : cfg.maxTreeHeight ≤ 30) (msg sk : Bytes)
    (cb : Bytes → Bool) (aux : Option Bytes) (k : RefKey) (p0 : HssParam) (o : SignOutcome)
    (hk : RefKey.parse H.n sk = some k) (hst : signTop H cfg k = some p0)
    (hh : Honest H cfg k.seed p0 aux) (h : hssSign H cfg msg sk cb aux = .ok o) :
    Honest H cfg k.seed p0 o.aux :=
  sign_output_honest_keyFor H cfg hK msg sk cb aux k.seed p0 o (keyFor_of_parse hk hst) hh h

/-- `KeyFor`, spelled out -/
theorem keyFor_def (H : HashFn) (cfg : Config) (seed : Bytes) (p0 : HssParam) (sk : Bytes) :
    KeyFor H cfg seed p0 sk ↔
      ∀ k, RefKey.parse H.n sk = some k → ∀ p, signTop H cfg k = some p → k.seed = seed ∧ p = p0 := Iff.rfl

/-- The signing key returned by `hssKeygen` belongs to the generated key, with any value in its 8 counter bytes. -/
theorem generated_key_keyFor (H : HashFn) (cfg : Config) (ps : List HssParam) (seed : Bytes) (aux : Option Bytes)
    (p0 : HssParam) (o : KeygenOutcome) (skb vk : Bytes) (c : Nat)
    (htop : keygenTop H cfg ps = some p0) (hseed : seed.length = H.n)
    (h : hssKeygen H cfg ps seed aux = .ok o) (hr : o.result = some (skb, vk)) :
    KeyFor H cfg seed p0 skb ∧ KeyFor H cfg seed p0 (Bytes.u64be c ++ skb.drop 8) := by
  obtain ⟨pb, ps', hb, hp, hhd⟩ := keygenTop_eq_some htop
  rw [hssKeygen_eq hb hp hhd] at h
  cases h
  obtain ⟨rfl, _⟩ := keygenResult_eq_some hr
  have hpb : (paramsOfBytes cfg H.n pb).bind List.head? = some p0 := by rw [hp]; exact hhd
  refine ⟨keyFor_blob H cfg seed p0 pb 0 hseed hpb, ?_⟩
  have : (Bytes.u64be 0 ++ pb ++ seed).drop 8 = pb ++ seed := by
    rw [List.append_assoc]; exact List.drop_left' (Bytes.u64be_length 0)
  rw [this, ← List.append_assoc]
  exact keyFor_blob H cfg seed p0 pb c hseed hpb

/-- Every key handed to the update callback by a signing call belongs to the same key again (it is the key with an
advanced counter, or the wiped key). -/
theorem callback_key_keyFor (H : HashFn) (cfg : Config) (seed : Bytes) (p0 : HssParam) (msg sk : Bytes)
    (cb : Bytes → Bool) (aux : Option Bytes) (o : SignOutcome) (hk : KeyFor H cfg seed p0 sk)
    (h : hssSign H cfg msg sk cb aux = .ok o) : ∀ sk' ∈ o.trace, KeyFor H cfg seed p0 sk' := by
  rcases Lemmas.hssSign_outcome h with ⟨-, ht⟩ | ⟨k, hs', _, _, _, hp, -, rfl⟩
  · rw [ht]; intro sk' hm; cases hm
  · intro sk' hm
    rw [List.mem_singleton.1 hm]
    exact keyFor_increment H cfg seed p0 sk k hk hp hs'

/-- `Props.C10.C10_sign` for key bytes that belong to `(seed, p0)`: `Honest` for that key is its hypothesis `hused`. -/
theorem sign_honest_transparent (H : HashFn) (cfg : Config) (hK : cfg.maxTreeHeight ≤ 30) (msg sk : Bytes)
    (cb : Bytes → Bool) (aux : Option Bytes) (seed : Bytes) (p0 : HssParam)
    (hk : KeyFor H cfg seed p0 sk) (hh : Honest H cfg seed p0 aux) :
    (hssSign H cfg msg sk cb aux).map (fun o => (o.result, o.trace)) =
      (hssSign H cfg msg sk cb none).map (fun o => (o.result, o.trace)) :=
  Props.C10.C10_sign H cfg hK msg sk cb aux fun k p buf e hp hst hb hu he => by
    obtain ⟨h1, h2⟩ := hk k hp p hst
    subst h1; subst h2
    exact hh buf e hb hu he

/-- If signing with an honest buffer returns, the call without auxiliary data returns as well, with the same signature
bytes and the same callback invocations. -/
theorem sign_honest_same_signature (H : HashFn) (cfg : Config) (hK : cfg.maxTreeHeight ≤ 30) (msg sk : Bytes)
    (cb : Bytes → Bool) (aux : Option Bytes) (seed : Bytes) (p0 : HssParam) (o : SignOutcome)
    (hk : KeyFor H cfg seed p0 sk) (hh : Honest H cfg seed p0 aux) (h : hssSign H cfg msg sk cb aux = .ok o) :
    ∃ o', hssSign H cfg msg sk cb none = .ok o' ∧ o'.result = o.result ∧ o'.trace = o.trace := by
  obtain ⟨o', h', he⟩ := P.ok_of_map_eq (sign_honest_transparent H cfg hK msg sk cb aux seed p0 hk hh) h
  exact ⟨o', h', (congrArg Prod.fst he).symm, (congrArg Prod.snd he).symm⟩

/-- Buffers that can occur in the life of the key `(ps, seed)`: what the caller starts with (absent, unmarked, or
rejected by the MAC check for this seed), and whatever `hssKeygen` for this key or `hssSign` with key bytes of this key
wrote back into such a buffer - in any order, any number of times. -/
inductive Reachable (H : HashFn) (cfg : Config) (ps : List HssParam) (seed : Bytes) (p0 : HssParam) :
    Option Bytes → Prop
  | fresh (aux : Option Bytes) :
      (∀ b, aux = some b → hss_is_aux_data_used b = false) → Reachable H cfg ps seed p0 aux
  | rejected (buf : Bytes) :
      hss_expand_aux_data H cfg buf (some seed) = none → Reachable H cfg ps seed p0 (some buf)
  | keygen (aux : Option Bytes) (o : KeygenOutcome) :
      Reachable H cfg ps seed p0 aux → hssKeygen H cfg ps seed aux = .ok o → Reachable H cfg ps seed p0 o.aux
  | sign (aux : Option Bytes) (msg sk : Bytes) (cb : Bytes → Bool) (o : SignOutcome) :
      Reachable H cfg ps seed p0 aux → KeyFor H cfg seed p0 sk → hssSign H cfg msg sk cb aux = .ok o →
      Reachable H cfg ps seed p0 o.aux

/-- every reachable buffer is honest -/
theorem reachable_honest (H : HashFn) (cfg : Config) (hK : cfg.maxTreeHeight ≤ 30) (ps : List HssParam)
    (seed : Bytes) (p0 : HssParam) (htop : keygenTop H cfg ps = some p0) (aux : Option Bytes)
    (hr : Reachable H cfg ps seed p0 aux) : Honest H cfg seed p0 aux := by
  induction hr with
  | fresh aux hun => exact honest_unmarked H cfg seed p0 aux hun
  | rejected buf hbad => exact honest_of_rejected H cfg seed p0 buf hbad
  | keygen aux o _ h ih => exact keygen_output_honest H cfg hK ps seed aux p0 o htop ih h
  | sign aux msg sk cb o _ hk h ih => exact sign_output_honest_keyFor H cfg hK msg sk cb aux seed p0 o hk ih h

/-- **Any interleaving, signing.** On every reachable buffer, every signing call with key bytes of this key
returns the same `(result, trace)` - signature or error, callback invocations - or the same panic as the same call
without auxiliary data. No hypothesis about MACs or cache contents. -/
theorem reachable_sign_transparent (H : HashFn) (cfg : Config) (hK : cfg.maxTreeHeight ≤ 30) (ps : List HssParam)
    (seed : Bytes) (p0 : HssParam) (htop : keygenTop H cfg ps = some p0) (aux : Option Bytes)
    (hr : Reachable H cfg ps seed p0 aux) (msg sk : Bytes) (cb : Bytes → Bool) (hk : KeyFor H cfg seed p0 sk) :
    (hssSign H cfg msg sk cb aux).map (fun o => (o.result, o.trace)) =
      (hssSign H cfg msg sk cb none).map (fun o => (o.result, o.trace)) :=
  sign_honest_transparent H cfg hK msg sk cb aux seed p0 hk (reachable_honest H cfg hK ps seed p0 htop aux hr)

/-- **Any interleaving, key generation.** Re-running key generation on a reachable buffer returns the same key
pair as without auxiliary data. -/
theorem reachable_keygen_transparent (H : HashFn) (cfg : Config) (hK : cfg.maxTreeHeight ≤ 30) (ps : List HssParam)
    (seed : Bytes) (p0 : HssParam) (htop : keygenTop H cfg ps = some p0) (aux : Option Bytes)
    (hr : Reachable H cfg ps seed p0 aux) :
    (hssKeygen H cfg ps seed aux).map (·.result) = (hssKeygen H cfg ps seed none).map (·.result) :=
  Props.C10.C10_keygen H cfg hK ps seed aux fun p0' buf e hp0' => by
    rw [htop] at hp0'; cases hp0'
    exact reachable_honest H cfg hK ps seed p0 htop aux hr buf e

/-- one signing call of a session -/
structure Call where
  msg : Bytes
  sk : Bytes
  cb : Bytes → Bool

/-- a session: every call gets the aux buffer WRITTEN BACK by the previous call; collected are `(result, trace)` -/
def runSession (H : HashFn) (cfg : Config) : List Call → Option Bytes → P (List (Option Bytes × List Bytes))
  | [], _ => pure []
  | c :: cs, aux => do
    let o ← hssSign H cfg c.msg c.sk c.cb aux
    let r ← runSession H cfg cs o.aux
    pure ((o.result, o.trace) :: r)

/-- the same calls, each without auxiliary data -/
def runNoAux (H : HashFn) (cfg : Config) : List Call → P (List (Option Bytes × List Bytes))
  | [] => pure []
  | c :: cs => do
    let o ← hssSign H cfg c.msg c.sk c.cb none
    let r ← runNoAux H cfg cs
    pure ((o.result, o.trace) :: r)

theorem session_honest_transparent (H : HashFn) (cfg : Config) (hK : cfg.maxTreeHeight ≤ 30) (seed : Bytes)
    (p0 : HssParam) (calls : List Call) (hk : ∀ c ∈ calls, KeyFor H cfg seed p0 c.sk) (aux : Option Bytes)
    (hh : Honest H cfg seed p0 aux) : runSession H cfg calls aux = runNoAux H cfg calls := by
  induction calls generalizing aux with
  | nil => rfl
  | cons c cs ih =>
    have hkc := hk c List.mem_cons_self
    unfold runSession runNoAux
    refine P.bind_congr_of_map (sign_honest_transparent H cfg hK c.msg c.sk c.cb aux seed p0 hkc hh) ?_
    intro o o' h1 _ ht
    -- the buffer the call wrote back is honest again
    rw [ih (fun c' hc' => hk c' (List.mem_cons_of_mem _ hc')) o.aux
      (sign_output_honest_keyFor H cfg hK c.msg c.sk c.cb aux seed p0 o hkc hh h1), ht]

/-- **Threaded session.** Key generation on ANY absent or unmarked caller buffer, then any list of signing calls,
each with key bytes of the generated key (any counter; also keys that no longer parse/decode) and with the aux buffer
written back by the previous operation: every call returns the same `(result, trace)` as the same call without
auxiliary data (and the session panics at the same call with the same panic, if any). -/
theorem session_after_keygen (H : HashFn) (cfg : Config) (hK : cfg.maxTreeHeight ≤ 30) (ps : List HssParam)
    (seed : Bytes) (aux0 : Option Bytes) (p0 : HssParam) (o0 : KeygenOutcome) (calls : List Call)
    (htop : keygenTop H cfg ps = some p0)
    (hun : ∀ b, aux0 = some b → hss_is_aux_data_used b = false)
    (hkg : hssKeygen H cfg ps seed aux0 = .ok o0)
    (hk : ∀ c ∈ calls, KeyFor H cfg seed p0 c.sk) :
    runSession H cfg calls o0.aux = runNoAux H cfg calls :=
  session_honest_transparent H cfg hK seed p0 calls hk o0.aux
    (keygen_output_honest_fresh H cfg hK ps seed aux0 p0 o0 htop hun hkg)

/-- The same with the key bytes made explicit: the generated signing key `skb` with its 8 counter bytes set to any
value `c` (this is `Props.C01.blobWithCounter skb c`). -/
theorem session_after_keygen_counters (H : HashFn) (cfg : Config) (hK : cfg.maxTreeHeight ≤ 30) (ps : List HssParam)
    (seed : Bytes) (aux0 : Option Bytes) (p0 : HssParam) (o0 : KeygenOutcome) (skb vk : Bytes)
    (calls : List (Bytes × Nat × (Bytes → Bool)))
    (htop : keygenTop H cfg ps = some p0) (hseed : seed.length = H.n)
    (hun : ∀ b, aux0 = some b → hss_is_aux_data_used b = false)
    (hkg : hssKeygen H cfg ps seed aux0 = .ok o0) (hres : o0.result = some (skb, vk)) :
    runSession H cfg (calls.map fun c => ⟨c.1, Bytes.u64be c.2.1 ++ skb.drop 8, c.2.2⟩) o0.aux =
      runNoAux H cfg (calls.map fun c => ⟨c.1, Bytes.u64be c.2.1 ++ skb.drop 8, c.2.2⟩) := by
  apply session_after_keygen H cfg hK ps seed aux0 p0 o0 _ htop hun hkg
  intro c hc
  obtain ⟨c', _, rfl⟩ := List.mem_map.1 hc
  exact (generated_key_keyFor H cfg ps seed aux0 p0 o0 skb vk c'.2.1 htop hseed hkg hres).2

/-- the key the caller holds after a call: the successor key if the update callback was invoked and accepted it
(as in `trySign`), else the old one -/
def nextKey (cb : Bytes → Bool) (sk : Bytes) (trace : List Bytes) : Bytes :=
  match trace with
  | [k'] => if cb k' then k' else sk
  | _ => sk

/-- a fully threaded session: both the key (through the update callback) and the aux buffer are carried over -/
def runThreaded (H : HashFn) (cfg : Config) :
    List (Bytes × (Bytes → Bool)) → Bytes → Option Bytes → P (List (Option Bytes × List Bytes))
  | [], _, _ => pure []
  | c :: cs, sk, aux => do
    let o ← hssSign H cfg c.1 sk c.2 aux
    let r ← runThreaded H cfg cs (nextKey c.2 sk o.trace) o.aux
    pure ((o.result, o.trace) :: r)

/-- the same session without auxiliary data -/
def runThreadedNoAux (H : HashFn) (cfg : Config) :
    List (Bytes × (Bytes → Bool)) → Bytes → P (List (Option Bytes × List Bytes))
  | [], _ => pure []
  | c :: cs, sk => do
    let o ← hssSign H cfg c.1 sk c.2 none
    let r ← runThreadedNoAux H cfg cs (nextKey c.2 sk o.trace)
    pure ((o.result, o.trace) :: r)

theorem nextKey_keyFor (H : HashFn) (cfg : Config) (seed : Bytes) (p0 : HssParam) (cb : Bytes → Bool) (sk : Bytes)
    (trace : List Bytes) (hk : KeyFor H cfg seed p0 sk) (ht : ∀ sk' ∈ trace, KeyFor H cfg seed p0 sk') :
    KeyFor H cfg seed p0 (nextKey cb sk trace) := by
  unfold nextKey
  split
  · rename_i k'
    split
    · exact ht k' (by simp)
    · exact hk
  · exact hk

theorem threaded_honest_transparent (H : HashFn) (cfg : Config) (hK : cfg.maxTreeHeight ≤ 30) (seed : Bytes)
    (p0 : HssParam) (calls : List (Bytes × (Bytes → Bool))) (sk : Bytes) (hk : KeyFor H cfg seed p0 sk)
    (aux : Option Bytes) (hh : Honest H cfg seed p0 aux) :
    runThreaded H cfg calls sk aux = runThreadedNoAux H cfg calls sk := by
  induction calls generalizing sk aux with
  | nil => rfl
  | cons c cs ih =>
    unfold runThreaded runThreadedNoAux
    refine P.bind_congr_of_map (sign_honest_transparent H cfg hK c.1 sk c.2 aux seed p0 hk hh) ?_
    intro o o' h1 _ ht
    have htr : o.trace = o'.trace := congrArg Prod.snd ht
    -- the key accepted by the callback belongs to the same key, the buffer written back is honest again
    rw [ih (nextKey c.2 sk o.trace)
        (nextKey_keyFor H cfg seed p0 c.2 sk o.trace hk (callback_key_keyFor H cfg seed p0 c.1 sk c.2 aux o hk h1)) o.aux
        (sign_output_honest_keyFor H cfg hK c.1 sk c.2 aux seed p0 o hk hh h1), ht, htr]

/-- **Fully threaded session.** `hssKeygen` on ANY absent or unmarked caller buffer, then any list of `(msg, callback)`
signing calls in which each call uses the key accepted by the previous callback and the aux buffer written back by the
previous operation: every call returns the same `(result, trace)` - in particular the same signature bytes and the same
successor key - as in the session run without auxiliary data. No hypothesis about MACs or cache contents. -/
theorem threaded_session_after_keygen (H : HashFn) (cfg : Config) (hK : cfg.maxTreeHeight ≤ 30) (ps : List HssParam)
    (seed : Bytes) (aux0 : Option Bytes) (p0 : HssParam) (o0 : KeygenOutcome) (skb vk : Bytes)
    (calls : List (Bytes × (Bytes → Bool)))
    (htop : keygenTop H cfg ps = some p0) (hseed : seed.length = H.n)
    (hun : ∀ b, aux0 = some b → hss_is_aux_data_used b = false)
    (hkg : hssKeygen H cfg ps seed aux0 = .ok o0) (hres : o0.result = some (skb, vk)) :
    runThreaded H cfg calls skb o0.aux = runThreadedNoAux H cfg calls skb :=
  threaded_honest_transparent H cfg hK seed p0 calls skb
    (generated_key_keyFor H cfg ps seed aux0 p0 o0 skb vk 0 htop hseed hkg hres).1 o0.aux
    (keygen_output_honest_fresh H cfg hK ps seed aux0 p0 o0 htop hun hkg)

/-- On any reachable buffer, a call that releases a signature releases exactly the bytes the aux-free call releases. -/
theorem session_call_same_signature (H : HashFn) (cfg : Config) (hK : cfg.maxTreeHeight ≤ 30) (ps : List HssParam)
    (seed : Bytes) (p0 : HssParam) (htop : keygenTop H cfg ps = some p0) (aux : Option Bytes)
    (hr : Reachable H cfg ps seed p0 aux) (msg sk : Bytes) (cb : Bytes → Bool) (hk : KeyFor H cfg seed p0 sk)
    (o : SignOutcome) (sig : Bytes) (h : hssSign H cfg msg sk cb aux = .ok o) (hres : o.result = some sig) :
    ∃ o', hssSign H cfg msg sk cb none = .ok o' ∧ o'.result = some sig ∧ o'.trace = o.trace := by
  obtain ⟨o', h1, h2, h3⟩ := sign_honest_same_signature H cfg hK msg sk cb aux seed p0 o hk
    (reachable_honest H cfg hK ps seed p0 htop aux hr) h
  exact ⟨o', h1, by rw [h2, hres], h3⟩

/-- a toy hash function (one-byte polynomial checksum of the input, repeated 16 times) -/
def toyHash : HashFn :=
  ⟨16, fun x => List.replicate 16 (UInt8.ofNat (x.foldl (fun a b => (31 * a + b.toNat) % 251) 7)), fun x => by simp⟩

/-- LM-OTS `w = 2` for a 16-byte hash over the 4-leaf test tree -/
def toyParam : HssParam := ⟨⟨2, 2, 68, 6⟩, ⟨1, 2⟩⟩

def toySeed : Bytes := [1, 2, 3, 4, 5, 6, 7, 8, 9, 10, 11, 12, 13, 14, 15, 16]

/-- marked as used and accepted (level word, length and MAC check) by `hss_expand_aux_data` for the toy seed -/
def toyAccepted (aux : Option Bytes) : Bool :=
  match aux with
  | some b => hss_is_aux_data_used b && (hss_expand_aux_data toyHash Config.default b (some toySeed)).isSome
  | none => false

/-- `Honest` is not satisfied only vacuously along a session: key generation on a zeroed 200-byte buffer writes back a
buffer that is marked as used and passes the MAC check of `hss_expand_aux_data` for the same seed, i.e. the next
operation really reads the cached levels back. This is `hssKeygen_output_accepted` (which holds for every hash function
and parameter set) at the toy instance: only the frame of the fresh view - marker set, level word equal to its 4 bytes -
is evaluated; no tree node is. -/
theorem keygen_output_is_accepted_toy :
    (match hssKeygen toyHash Config.default [toyParam] toySeed (some (List.replicate 200 0)) with
      | .ok o => toyAccepted o.aux
      | .error _ => false) = true := by
  have hfresh :
      (match getExpandedAuxData toyHash Config.default (some (List.replicate 200 0)) toySeed toyParam.lms.h with
        | (some e, some _, _) => hss_is_aux_data_used e.head && e.head == Bytes.u32be e.level
        | _ => false) = true := by decide +kernel
  generalize hg : getExpandedAuxData toyHash Config.default (some (List.replicate 200 0)) toySeed toyParam.lms.h = g
    at hfresh
  -- `hfresh` is `false = true` unless there is a view and a buffer
  obtain ⟨e, buf, rest⟩ := g
  cases e with
  | none => cases hfresh
  | some e0 =>
    cases buf with
    | none => cases hfresh
    | some m =>
      simp only [Bool.and_eq_true, beq_iff_eq] at hfresh
      obtain ⟨o, b, ho, hb, hu, hacc⟩ := hssKeygen_output_accepted toyHash Config.default (by decide) [toyParam] toySeed
        (some (List.replicate 200 0)) toyParam (by decide +kernel) (fun b hb => by cases hb; decide) hg hfresh.1 hfresh.2
      rw [ho]
      show toyAccepted o.aux = true
      rw [hb, toyAccepted, hu, hacc]
      rfl

end Props.C10Life

#print axioms Props.C10Life.roundtrip_layers
#print axioms Props.C10Life.expanded_view_shape
#print axioms Props.C10Life.treeNode_keeps_frame
#print axioms Props.C10Life.keygen_output_honest
#print axioms Props.C10Life.keygen_output_honest_fresh
#print axioms Props.C10Life.keygen_output_honest_rejected
#print axioms Props.C10Life.sign_output_honest
#print axioms Props.C10Life.sign_output_honest_keyFor
#print axioms Props.C10Life.generated_key_keyFor
#print axioms Props.C10Life.callback_key_keyFor
#print axioms Props.C10Life.sign_honest_transparent
#print axioms Props.C10Life.sign_honest_same_signature
#print axioms Props.C10Life.reachable_honest
#print axioms Props.C10Life.reachable_sign_transparent
#print axioms Props.C10Life.reachable_keygen_transparent
#print axioms Props.C10Life.session_honest_transparent
#print axioms Props.C10Life.session_after_keygen
#print axioms Props.C10Life.session_after_keygen_counters
#print axioms Props.C10Life.threaded_honest_transparent
#print axioms Props.C10Life.threaded_session_after_keygen
#print axioms Props.C10Life.session_call_same_signature
#print axioms Props.C10Life.keygen_output_is_accepted_toy
