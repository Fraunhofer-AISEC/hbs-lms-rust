/-
C13 - leaf selection follows the reference's mixed-radix rule for every key shape.
-/
import HbsLms.Props.C05Tall

namespace Props.C13

open Impl Spec

/-- For every list of heights, with no bound on the total height, and every counter, the leaf index the library computes
for each level (`CompressedUsedLeafsIndexes::to`: mask, then shift, from the bottom level up) is the corresponding
digit of the counter in mixed radix with the per-level tree sizes, bottom level least significant. -/
theorem leaves_are_mixed_radix_digits (hs : List Nat) (c : Nat) :
    leavesOfCounter hs c = mixedRadix hs c :=
  Lemmas.leavesOfCounter_eq hs c

/-- one leaf index per level, each a valid leaf of its tree -/
theorem leaves_in_range (hs : List Nat) (c : Nat) :
    (leavesOfCounter hs c).length = hs.length ∧
    ∀ i, i < hs.length → (leavesOfCounter hs c).getD i 0 < 2 ^ hs.getD i 0 := by
  rw [leaves_are_mixed_radix_digits]
  exact ⟨Lemmas.mixedRadix_length hs c, fun i hi => Lemmas.mixedRadix_lt hs c i hi⟩

/-- Two different counters below the number of leaves never select the same leaf vector: a key file that moves
between two implementations which both read the counter this way cannot reuse a leaf. -/
theorem distinct_counters_select_distinct_leaves (hs : List Nat) (c c' : Nat)
    (hc : c < leavesTotal hs) (hc' : c' < leavesTotal hs) (hne : c ≠ c') :
    leavesOfCounter hs c ≠ leavesOfCounter hs c' := by
  intro h
  rw [leaves_are_mixed_radix_digits, leaves_are_mixed_radix_digits] at h
  exact hne (Lemmas.mixedRadix_injective hs c c' hc hc' h)

/-- Successor: total height at most 63 - `c+1` until the last leaf, the wiped state (`none`) after it. -/
theorem successor_le63 (hs : List Nat) (c : Nat) (hsum : hs.sum ≤ 63) :
    incrementCounter hs c = if c + 1 < leavesTotal hs then some (c + 1) else none := by
  rw [C05Tall.successor_all, C05Tall.capacity_le63 hs hsum]

/-- Taller lists (which key generation accepts) are handled without arithmetic failure and the key is never
reported exhausted early: the successor is `c+1` for every counter the 8 bytes can hold but the last. -/
theorem successor_tall (hs : List Nat) (c : Nat) (hsum : 64 ≤ hs.sum) :
    incrementCounter hs c = if c + 1 < 2 ^ 64 then some (c + 1) else none := by
  rw [C05Tall.successor_all, Lemmas.capacity_tall hs hsum]

/-- the wiped key is what `RefKey.increment` yields exactly when the last leaf was used -/
theorem increment_wipes_exactly_at_last_leaf (k : RefKey) (n : Nat) (hs : List Nat) (hsum : hs.sum ≤ 63) :
    k.increment n hs = if k.counter + 1 < leavesTotal hs then { k with counter := k.counter + 1 } else RefKey.wiped n := by
  rw [C05Tall.increment_wipes_exactly_at_capacity, C05Tall.capacity_le63 hs hsum]

-- non-vacuity: a 3-level key H5/H10/H2 at a roll-over counter (bottom tree exhausted, middle tree advances)
example : leavesOfCounter [5, 10, 2] (3 * 4096 + 7 * 4 + 0) = [3, 7, 0] := by decide
example : incrementCounter [5, 10, 2] (2 ^ 17 - 1) = none := by decide
example : incrementCounter [10, 10, 10, 10, 10, 10, 5] (2 ^ 64 - 2) = some (2 ^ 64 - 1) := by decide

end Props.C13

#print axioms Props.C13.leaves_are_mixed_radix_digits
#print axioms Props.C13.leaves_in_range
#print axioms Props.C13.distinct_counters_select_distinct_leaves
#print axioms Props.C13.successor_le63
#print axioms Props.C13.successor_tall
#print axioms Props.C13.increment_wipes_exactly_at_last_leaf
