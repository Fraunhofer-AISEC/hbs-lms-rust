/-
C12: the chain positions used to sign a digest are the RFC 8554 base-2^w digits of the digest followed by the digits of
its checksum, with the Appendix B values of `ls` and `p`; hence the checksum digits encode the full checksum and no
digest's digit vector dominates that of another. `Spec.AppendixB` is the RFC side, written without reference to the
model; `Impl.digits` models `append_checksum_to` + `coef`.
-/
import HbsLms.Lemmas.LmotsDigits

namespace Props.C12

open Spec.AppendixB Lemmas.Digits

/-- every row of the library's LM-OTS table has `w ∈ {1, 2, 4, 8}`, the Appendix B `p` and a left shift of at most 8 -/
theorem table_shape_ok : ∀ n ∈ [16, 24, 32], ∀ t ∈ [1, 2, 3, 4],
    (Params.lmotsGetFromType n t).map (RowShapeOk n) = some true := by decide +kernel

/-- a row has the Appendix B left shift exactly when it is not one of (n=24,w=1), (n=16,w=1), (n=16,w=2) -/
theorem table_rows_ok : ∀ n ∈ [16, 24, 32], ∀ t ∈ [1, 2, 3, 4],
    (Params.lmotsGetFromType n t).map (RowOk n) = some (!decide ((n, t) ∈ [(24, 1), (16, 1), (16, 2)])) := by
  decide +kernel

theorem row_32_1_ok : (Params.lmotsGetFromType 32 1).map (RowOk 32) = some true :=
  table_rows_ok 32 (by decide) 1 (by decide)
theorem row_32_2_ok : (Params.lmotsGetFromType 32 2).map (RowOk 32) = some true :=
  table_rows_ok 32 (by decide) 2 (by decide)
theorem row_32_3_ok : (Params.lmotsGetFromType 32 3).map (RowOk 32) = some true :=
  table_rows_ok 32 (by decide) 3 (by decide)
theorem row_32_4_ok : (Params.lmotsGetFromType 32 4).map (RowOk 32) = some true :=
  table_rows_ok 32 (by decide) 4 (by decide)
theorem row_24_2_ok : (Params.lmotsGetFromType 24 2).map (RowOk 24) = some true :=
  table_rows_ok 24 (by decide) 2 (by decide)
theorem row_24_3_ok : (Params.lmotsGetFromType 24 3).map (RowOk 24) = some true :=
  table_rows_ok 24 (by decide) 3 (by decide)
theorem row_24_4_ok : (Params.lmotsGetFromType 24 4).map (RowOk 24) = some true :=
  table_rows_ok 24 (by decide) 4 (by decide)
theorem row_16_3_ok : (Params.lmotsGetFromType 16 3).map (RowOk 16) = some true :=
  table_rows_ok 16 (by decide) 3 (by decide)
theorem row_16_4_ok : (Params.lmotsGetFromType 16 4).map (RowOk 16) = some true :=
  table_rows_ok 16 (by decide) 4 (by decide)

/-- the three rows whose left shift is not the Appendix B value -/
theorem row_24_1_bad : (Params.lmotsGetFromType 24 1).map (RowOk 24) = some false ∧
    (Params.lmotsGetFromType 24 1).map (·.ls) = some 7 ∧ lsRfc 24 1 = 8 := by decide +kernel
theorem row_16_1_bad : (Params.lmotsGetFromType 16 1).map (RowOk 16) = some false ∧
    (Params.lmotsGetFromType 16 1).map (·.ls) = some 7 ∧ lsRfc 16 1 = 8 := by decide +kernel
theorem row_16_2_bad : (Params.lmotsGetFromType 16 2).map (RowOk 16) = some false ∧
    (Params.lmotsGetFromType 16 2).map (·.ls) = some 6 ∧ lsRfc 16 2 = 8 := by decide +kernel

/-- the Appendix B table itself: `(u, v, ls, p)` for `n = 32, 24, 16` and `w = 1, 2, 4, 8` -/
theorem appendixB_values :
    [32, 24, 16].map (fun n => [1, 2, 4, 8].map fun w => (u n w, v n w, lsRfc n w, pRfc n w)) =
      [[(256, 9, 7, 265), (128, 5, 6, 133), (64, 3, 4, 67), (32, 2, 0, 34)],
       [(192, 8, 8, 200), (96, 5, 6, 101), (48, 3, 4, 51), (24, 2, 0, 26)],
       [(128, 8, 8, 136), (64, 4, 8, 68), (32, 3, 4, 35), (16, 2, 0, 18)]] := by decide +kernel

theorem library_type_mem {n t : Nat} {prm : LmotsParam} (h : Params.lmotsGetFromType n t = some prm) :
    t ∈ [1, 2, 3, 4] := Lemmas.lmotsGetFromType_type_mem h

theorem library_row_shape {n t : Nat} {prm : LmotsParam} (hn : n = 16 ∨ n = 24 ∨ n = 32)
    (h : Params.lmotsGetFromType n t = some prm) : RowShapeOk n prm = true := by
  have := table_shape_ok n (mem_of_hn hn) t (library_type_mem h)
  rw [h] at this
  simpa using this

/-- every parameter row the library hands out, apart from the three above, has the Appendix B `w`, `p` and `ls` -/
theorem library_row_ok {n t : Nat} {prm : LmotsParam} (hn : n = 16 ∨ n = 24 ∨ n = 32)
    (h : Params.lmotsGetFromType n t = some prm) (hgood : (n, t) ∉ [(24, 1), (16, 1), (16, 2)]) :
    RowOk n prm = true := by
  have := table_rows_ok n (mem_of_hn hn) t (library_type_mem h)
  rw [h, decide_eq_false hgood] at this
  simpa using this

/-- `p` was chosen so that all `p` digits lie inside `Q ‖ cksm` (`p*w ≤ 8n + 16`), the `u16` checksum cannot
overflow (`u*(2^w-1) ≤ 8160 = 32 * 255`, the value at `n = 32`, `w = 8`, the largest that occurs; a `u16` holds 65535)
and the ArrayVec of capacity 34 suffices (`n + 2 ≤ 34`). -/
theorem no_fault_bounds : ∀ n ∈ [16, 24, 32], ∀ w ∈ [1, 2, 4, 8],
    pRfc n w * w ≤ 8 * n + 16 ∧ u n w * (2 ^ w - 1) ≤ 8160 ∧ n + 2 ≤ Generated.MAX_HASH_SIZE + 2 := by decide +kernel

/-- `w` and `p` of Appendix B suffice, whatever `ls` is: `digits_eq_of` with the bounds of `no_fault_bounds` -/
theorem digits_eq_digitsSpec {n : Nat} (prm : LmotsParam) (Q : Bytes) (hn : n = 16 ∨ n = 24 ∨ n = 32)
    (hw : prm.w ∈ [1, 2, 4, 8]) (hp : prm.p = pRfc n prm.w) (hQ : Q.length = n) :
    Impl.digits n prm Q = .ok (digitsSpec n prm.w prm.ls Q) := by
  obtain ⟨h1, h2, _⟩ := no_fault_bounds n (mem_of_hn hn) prm.w hw
  rw [digits_eq_of prm Q hw hQ (by omega) (hp ▸ h1) (by omega), Lemmas.digitVec_eq_digitsSpec hp]

/-- `Impl.digits` (checksum loop on `u16`, `append_checksum_to` on an ArrayVec of capacity 34, `coef` with the
`!i & (8/w-1)` shift) returns exactly `coef(Q ‖ Cksm(Q), i, w)` for `i < p`; in particular it never faults. -/
theorem digits_eq_spec (n : Nat) (prm : LmotsParam) (Q : Bytes) (hn : n = 16 ∨ n = 24 ∨ n = 32)
    (hrow : RowShapeOk n prm = true) (hQ : Q.length = n) :
    Impl.digits n prm Q = .ok (digitsSpec n prm.w prm.ls Q) :=
  have ⟨hw, hp, _⟩ := rowShapeOk_iff.mp hrow
  digits_eq_digitsSpec prm Q hn hw hp hQ

/-- the same for every parameter set the library can construct -/
theorem digits_eq_spec_library (n t : Nat) (prm : LmotsParam) (Q : Bytes) (hn : n = 16 ∨ n = 24 ∨ n = 32)
    (hprm : Params.lmotsGetFromType n t = some prm) (hQ : Q.length = n) :
    Impl.digits n prm Q = .ok (digitsSpec n prm.w prm.ls Q) :=
  digits_eq_spec n prm Q hn (library_row_shape hn hprm) hQ

/-- digit extraction alone: inside the byte string `Impl.coef` is the RFC `coef` -/
theorem coef_eq_spec (bs : Bytes) (i w : Nat) (hw : w ∈ [1, 2, 4, 8]) (hi : i < 65536) (hidx : i * w / 8 < bs.length) :
    Impl.coef bs i w = .ok (rfcCoef bs i w) := coef_eq_rfcCoef hw hi hidx

/-- With the Appendix B shift, the last `v` digits read as a base-`2^w` number (most significant first) are the
unshifted checksum sum `S = Σ_{i<u} (2^w-1 - ds[i])`; `S < 2^(v*w)` and the 16-bit field holds `S * 2^ls` untruncated. -/
theorem checksum_digits_encode (n : Nat) (prm : LmotsParam) (Q : Bytes) (hn : n = 16 ∨ n = 24 ∨ n = 32)
    (hrow : RowOk n prm = true) (hQ : Q.length = n) :
    let ds := digitsSpec n prm.w prm.ls Q
    let S := ((List.range (u n prm.w)).map fun i => 2 ^ prm.w - 1 - ds.getD i 0).sum
    ofDigits (2 ^ prm.w) (ds.drop (u n prm.w)) = S ∧ S < 2 ^ (v n prm.w * prm.w) ∧
      cksm n prm.w prm.ls Q = S * 2 ^ prm.ls := by
  obtain ⟨hw, _, hls⟩ := rowOk_iff.mp hrow
  have hN := numOk_all n (mem_of_hn hn) prm.w hw
  intro ds S
  have hS : S = cksmSum n prm.w Q :=
    congrArg List.sum (List.map_congr_left fun i hi => by rw [digitsSpec_getD_msg hw prm.ls hQ (List.mem_range.mp hi)])
  obtain ⟨hc, hlt⟩ := cksm_eq_mul hN Q
  rw [hS]
  refine ⟨?_, hlt, by rw [hls]; exact hc⟩
  show ofDigits (2 ^ prm.w) ((digitsSpec n prm.w prm.ls Q).drop (u n prm.w)) = _
  rw [hls]
  exact cksm_digits_value hw hN hQ

/-- the digit vector determines the digest -/
theorem digitsSpec_injective (n w ls : Nat) (Q Q' : Bytes) (hw : w ∈ [1, 2, 4, 8])
    (hQ : Q.length = n) (hQ' : Q'.length = n) (h : digitsSpec n w ls Q = digitsSpec n w ls Q') : Q = Q' :=
  eq_of_msgDigits_eq hw hQ hQ' fun i hi => by
    rw [← digitsSpec_getD_msg hw ls hQ hi, ← digitsSpec_getD_msg hw ls hQ' hi, h]

/-- for an Appendix B row, the RFC digit vector of `Q` is never component-wise `≤` that of a different digest `Q'` -/
theorem domination_free (n : Nat) (prm : LmotsParam) (Q Q' : Bytes) (hn : n = 16 ∨ n = 24 ∨ n = 32)
    (hrow : RowOk n prm = true) (hQ : Q.length = n) (hQ' : Q'.length = n) (hne : Q ≠ Q') :
    ¬ (∀ i, i < pRfc n prm.w →
        (digitsSpec n prm.w prm.ls Q).getD i 0 ≤ (digitsSpec n prm.w prm.ls Q').getD i 0) := by
  obtain ⟨hw, _, hls⟩ := rowOk_iff.mp hrow
  have hN := numOk_all n (mem_of_hn hn) prm.w hw
  rw [hls]
  exact not_dominated hw hN hQ hQ' hne

/-- the same about the model: for an Appendix B row, the chain positions the model signs with for `Q` are never all
≤ those for a different digest `Q'` (so a signature on `Q` cannot be advanced to one on `Q'`). -/
theorem domination_free_impl (n : Nat) (prm : LmotsParam) (Q Q' : Bytes) (ds ds' : List Nat)
    (hn : n = 16 ∨ n = 24 ∨ n = 32) (hrow : RowOk n prm = true) (hQ : Q.length = n) (hQ' : Q'.length = n)
    (hne : Q ≠ Q') (hd : Impl.digits n prm Q = .ok ds) (hd' : Impl.digits n prm Q' = .ok ds') :
    ds.length = prm.p ∧ ds'.length = prm.p ∧ ¬ (∀ i, i < prm.p → ds.getD i 0 ≤ ds'.getD i 0) := by
  obtain ⟨hw, hp, _⟩ := rowOk_iff.mp hrow
  rw [digits_eq_digitsSpec prm Q hn hw hp hQ] at hd
  rw [digits_eq_digitsSpec prm Q' hn hw hp hQ'] at hd'
  cases hd; cases hd'
  rw [hp]
  exact ⟨digitsSpec_length _ _ _ _, digitsSpec_length _ _ _ _, domination_free n prm Q Q' hn hrow hQ hQ' hne⟩

/-! ### the three rows with a too small shift do admit domination (concrete witnesses) -/

/-- all-`0xff` digest except the last byte `0xfe` (checksum sum 1) -/
def Qlo (n : Nat) : Bytes := List.replicate (n - 1) 0xff ++ [0xfe]
/-- all-`0xff` digest (checksum sum 0) -/
def Qhi (n : Nat) : Bytes := List.replicate n 0xff

/-- n = 16, w = 2, library `ls = 6` (Appendix B: 8): checksum sums 1 and 0 differ only in bits dropped by the shift -/
theorem dominated_16_2 : Qlo 16 ≠ Qhi 16 ∧ (Qlo 16).length = 16 ∧ (Qhi 16).length = 16 ∧
    ∀ i, i < pRfc 16 2 → (digitsSpec 16 2 6 (Qlo 16)).getD i 0 ≤ (digitsSpec 16 2 6 (Qhi 16)).getD i 0 :=
  ⟨by decide, rfl, rfl, dominatedBy_of_parts (by decide) rfl rfl (fun _ hi => rfcCoef_le_replicate_ff (by decide) hi _)
    (by decide +kernel)⟩

/-- n = 24, w = 1, library `ls = 7` (Appendix B: 8) -/
theorem dominated_24_1 : Qlo 24 ≠ Qhi 24 ∧ (Qlo 24).length = 24 ∧ (Qhi 24).length = 24 ∧
    ∀ i, i < pRfc 24 1 → (digitsSpec 24 1 7 (Qlo 24)).getD i 0 ≤ (digitsSpec 24 1 7 (Qhi 24)).getD i 0 :=
  ⟨by decide, rfl, rfl, dominatedBy_of_parts (by decide) rfl rfl (fun _ hi => rfcCoef_le_replicate_ff (by decide) hi _)
    (by decide +kernel)⟩

/-- n = 16, w = 1, library `ls = 7` (Appendix B: 8) -/
theorem dominated_16_1 : Qlo 16 ≠ Qhi 16 ∧ (Qlo 16).length = 16 ∧ (Qhi 16).length = 16 ∧
    ∀ i, i < pRfc 16 1 → (digitsSpec 16 1 7 (Qlo 16)).getD i 0 ≤ (digitsSpec 16 1 7 (Qhi 16)).getD i 0 :=
  ⟨by decide, rfl, rfl, dominatedBy_of_parts (by decide) rfl rfl (fun _ hi => rfcCoef_le_replicate_ff (by decide) hi _)
    (by decide +kernel)⟩

/-- the witnesses at the level of the model, for the parameter rows the library really uses -/
theorem dominated_impl : ∀ nt ∈ [(16, 2), (24, 1), (16, 1)],
    ∃ prm ds ds', Params.lmotsGetFromType nt.1 nt.2 = some prm ∧
      Impl.digits nt.1 prm (Qlo nt.1) = .ok ds ∧ Impl.digits nt.1 prm (Qhi nt.1) = .ok ds' ∧
      Qlo nt.1 ≠ Qhi nt.1 ∧ ∀ i, i < prm.p → ds.getD i 0 ≤ ds'.getD i 0 := by
  intro nt hnt
  simp only [List.mem_cons, List.mem_nil_iff, or_false] at hnt
  rcases hnt with rfl | rfl | rfl
  · refine ⟨⟨2, 2, 68, 6⟩, _, _, by decide +kernel,
      digits_eq_spec 16 _ _ (by decide) (by decide +kernel) (by decide),
      digits_eq_spec 16 _ _ (by decide) (by decide +kernel) (by decide), dominated_16_2.1, dominated_16_2.2.2.2⟩
  · refine ⟨⟨1, 1, 200, 7⟩, _, _, by decide +kernel,
      digits_eq_spec 24 _ _ (by decide) (by decide +kernel) (by decide),
      digits_eq_spec 24 _ _ (by decide) (by decide +kernel) (by decide), dominated_24_1.1, dominated_24_1.2.2.2⟩
  · refine ⟨⟨1, 1, 136, 7⟩, _, _, by decide +kernel,
      digits_eq_spec 16 _ _ (by decide) (by decide +kernel) (by decide),
      digits_eq_spec 16 _ _ (by decide) (by decide +kernel) (by decide), dominated_16_1.1, dominated_16_1.2.2.2⟩

example : RowOk 32 ⟨4, 8, 34, 0⟩ = true ∧ RowShapeOk 32 ⟨4, 8, 34, 0⟩ = true := by decide +kernel
example : RowShapeOk 16 ⟨2, 2, 68, 6⟩ = true ∧ RowOk 16 ⟨2, 2, 68, 6⟩ = false := by decide +kernel
example : ∃ prm, Params.lmotsGetFromType 32 1 = some prm ∧ RowOk 32 prm = true := ⟨⟨1, 1, 265, 7⟩, by decide +kernel⟩
example : ∃ Q Q' : Bytes, Q.length = 32 ∧ Q'.length = 32 ∧ Q ≠ Q' :=
  ⟨List.replicate 32 0, List.replicate 32 1, by decide⟩
example : Impl.digits 16 ⟨4, 8, 18, 0⟩ (Qhi 16) = .ok (List.replicate 16 255 ++ [0, 0]) := by
  rw [digits_eq_spec 16 _ _ (by decide) (by decide +kernel) (by decide)]
  exact congrArg _ (by decide +kernel)

end Props.C12

#print axioms Props.C12.table_shape_ok
#print axioms Props.C12.table_rows_ok
#print axioms Props.C12.row_24_1_bad
#print axioms Props.C12.row_16_1_bad
#print axioms Props.C12.row_16_2_bad
#print axioms Props.C12.appendixB_values
#print axioms Props.C12.library_row_shape
#print axioms Props.C12.library_row_ok
#print axioms Props.C12.digits_eq_spec
#print axioms Props.C12.digits_eq_spec_library
#print axioms Props.C12.coef_eq_spec
#print axioms Props.C12.no_fault_bounds
#print axioms Props.C12.checksum_digits_encode
#print axioms Props.C12.digitsSpec_injective
#print axioms Props.C12.domination_free
#print axioms Props.C12.domination_free_impl
#print axioms Props.C12.dominated_16_2
#print axioms Props.C12.dominated_24_1
#print axioms Props.C12.dominated_16_1
#print axioms Props.C12.dominated_impl
#print axioms Props.C12.digits_eq_digitsSpec
