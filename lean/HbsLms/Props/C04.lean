/-
C04 - a signature is released only after the advanced key was handed over and accepted.
All statements are for every hash function, configuration, message, private-key byte string,
aux buffer and callback (an arbitrary function of the key bytes it is handed).
-/
import HbsLms.Lemmas.PrivKey
import HbsLms.Lemmas.NormalForm

namespace Props.C04

open Impl

/-- The callback is consulted only in `signCommit`, the last step, on the parsed key advanced by `increment`. -/
theorem hssSign_cases {H : HashFn} {cfg : Config} {msg sk : Bytes} {cb : Bytes → Bool} {aux : Option Bytes}
    {o : SignOutcome} (h : hssSign H cfg msg sk cb aux = .ok o) :
    (RefKey.parse H.n sk = none ∧ o = ⟨none, [], aux, []⟩) ∨
    ∃ k p, RefKey.parse H.n sk = some k ∧ signPrepare H cfg msg k aux = .ok p ∧ o = signCommit H.n cfg cb k p := by
  cases hk : RefKey.parse H.n sk with
  | none =>
    rw [Lemmas.hssSign_of_parse_none hk] at h
    exact Or.inl ⟨rfl, (Except.ok.inj h).symm⟩
  | some k => exact Or.inr ⟨k, (Lemmas.hssSign_parsed hk h).imp fun p hp => ⟨rfl, hp⟩⟩

/-- The callback is never invoked more than once per call. -/
theorem callback_at_most_once (H : HashFn) (cfg : Config) (msg sk : Bytes) (cb : Bytes → Bool) (aux : Option Bytes)
    (o : SignOutcome) (h : hssSign H cfg msg sk cb aux = .ok o) : o.trace.length ≤ 1 := by
  rcases Lemmas.hssSign_outcome h with ⟨-, ht⟩ | ⟨_, _, _, _, _, -, -, rfl⟩
  · rw [ht]; exact Nat.zero_le 1
  · exact Nat.le_refl 1

/-- Signing returns a signature only if the callback was invoked exactly once, with the complete successor
private key (the parsed key with its counter advanced by `increment`: `c+1`, or the wiped key after the last
leaf), and reported success. -/
theorem signature_only_after_accepted_callback (H : HashFn) (cfg : Config) (msg sk : Bytes) (cb : Bytes → Bool)
    (aux : Option Bytes) (o : SignOutcome) (sig : Bytes)
    (h : hssSign H cfg msg sk cb aux = .ok o) (hs : o.result = some sig) :
    ∃ k heights, RefKey.parse H.n sk = some k ∧
      o.trace = [(k.increment H.n heights).bytes] ∧ cb (k.increment H.n heights).bytes = true := by
  obtain ⟨k, hts, a, r, hk, -, hcb, rfl, -⟩ := Lemmas.hssSign_released h hs
  exact ⟨k, hts, hk, rfl, hcb⟩

/-- the successor key handed to the callback has the same length as the key that was passed in -/
theorem successor_key_same_length (n : Nat) (sk : Bytes) (k : RefKey) (hs : List Nat)
    (hk : RefKey.parse n sk = some k) : (k.increment n hs).bytes.length = sk.length := by
  obtain ⟨hl, hp, hsd, _⟩ := Lemmas.RefKey.parse_some hk
  rw [Lemmas.RefKey.increment_bytes_length k n hs hp hsd, hl]

/-- If the callback reports failure, no signature bytes are returned. -/
theorem rejected_callback_releases_nothing (H : HashFn) (cfg : Config) (msg sk : Bytes) (cb : Bytes → Bool)
    (aux : Option Bytes) (o : SignOutcome) (h : hssSign H cfg msg sk cb aux = .ok o)
    (hrej : ∀ k, cb k = false) : o.result = none :=
  Lemmas.hssSign_not_accepted h fun k _ => hrej k

/-- The callback is never invoked when no signature could be produced: whenever a step before the hand-over fails
(invalid parameter bytes, wiped key, unusable leaf, ...), the trace is empty and nothing is released, whatever the
callback would have answered. -/
theorem no_callback_when_preparation_fails (H : HashFn) (cfg : Config) (msg sk : Bytes) (cb : Bytes → Bool)
    (aux : Option Bytes) (k : RefKey) (a : Option Bytes) (r : Bytes)
    (hk : RefKey.parse H.n sk = some k) (hp : signPrepare H cfg msg k aux = .ok (.failed a r)) :
    hssSign H cfg msg sk cb aux = .ok ⟨none, [], a, r⟩ := by
  rw [Lemmas.hssSign_of_parse hk, hp]
  rfl

/-- a key of the wrong length (truncated, extended, empty) fails before anything else happens -/
theorem wrong_length_key_fails_before_callback (H : HashFn) (cfg : Config) (msg sk : Bytes) (cb : Bytes → Bool)
    (aux : Option Bytes)
    (hl : sk.length ≠ Generated.REF_IMPL_MAX_PRIVATE_KEY_SIZE - Generated.MAX_SEED_LEN + H.n) :
    hssSign H cfg msg sk cb aux = .ok ⟨none, [], aux, []⟩ := by
  have : RefKey.parse H.n sk = none := by
    rw [Lemmas.RefKey.parse_eq, if_neg (Lemmas.blobLen_eq H.n ▸ hl)]
  exact Lemmas.hssSign_of_parse_none this cfg msg cb aux

/-- the wiped key (and any key whose parameter bytes do not describe a supported parameter set) fails before the callback -/
theorem unusable_parameters_fail_before_callback (H : HashFn) (cfg : Config) (msg sk : Bytes) (cb : Bytes → Bool)
    (aux : Option Bytes) (k : RefKey) (hk : RefKey.parse H.n sk = some k)
    (hp : paramsOfBytes cfg H.n k.params = none) :
    hssSign H cfg msg sk cb aux = .ok ⟨none, [], aux, []⟩ :=
  no_callback_when_preparation_fails H cfg msg sk cb aux k aux [] hk (Lemmas.signPrepare_undecodable hp msg aux)

/-- An error after the callback was consulted means the callback rejected, or the signature does not fit the
signature object (excluded for accepted parameter sets by the limits, C14). -/
theorem error_with_callback_means_rejection (H : HashFn) (cfg : Config) (msg sk : Bytes) (cb : Bytes → Bool)
    (aux : Option Bytes) (o : SignOutcome) (k' : Bytes)
    (h : hssSign H cfg msg sk cb aux = .ok o) (hr : o.result = none) (ht : o.trace = [k']) :
    cb k' = false ∨ ∃ k hs sig a r, signPrepare H cfg msg k aux = .ok (.ready hs sig a r) ∧
        (sig.length > 65535 ∨ sig.length > cfg.maxHssSigLen) := by
  rcases Lemmas.hssSign_outcome_cases h with ⟨-, ht'⟩ | ⟨k, hs, sig, a, r, -, hp, ht', hc⟩
  · rw [ht'] at ht; cases ht
  · cases ht'.symm.trans ht
    rcases hc with ⟨hcb, -⟩ | ⟨-, hsome⟩ | ⟨-, -, hlen⟩
    · exact Or.inl hcb
    · rw [hr] at hsome; cases hsome
    · exact Or.inr ⟨k, hs, sig, a, r, hp, hlen⟩

end Props.C04

#print axioms Props.C04.hssSign_cases
#print axioms Props.C04.callback_at_most_once
#print axioms Props.C04.signature_only_after_accepted_callback
#print axioms Props.C04.successor_key_same_length
#print axioms Props.C04.rejected_callback_releases_nothing
#print axioms Props.C04.no_callback_when_preparation_fails
#print axioms Props.C04.wrong_length_key_fails_before_callback
#print axioms Props.C04.unusable_parameters_fail_before_callback
#print axioms Props.C04.error_with_callback_means_rejection
