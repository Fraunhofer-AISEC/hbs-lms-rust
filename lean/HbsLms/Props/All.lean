-- all property theorem modules
import HbsLms.Props.C01
import HbsLms.Props.C01Aux
import HbsLms.Props.C02
import HbsLms.Props.C03
import HbsLms.Props.C03Ids
import HbsLms.Props.C04
import HbsLms.Props.C05
import HbsLms.Props.C05Tall
import HbsLms.Props.C06
import HbsLms.Props.C07
import HbsLms.Props.C07Rfc
import HbsLms.Props.C07Aux
import HbsLms.Props.C08
import HbsLms.Props.C08Toy
import HbsLms.Props.C08Derive
import HbsLms.Props.C09
import HbsLms.Props.C10
import HbsLms.Props.C10Life
import HbsLms.Props.C11
import HbsLms.Props.C12
import HbsLms.Props.C13
import HbsLms.Props.C14
import HbsLms.Props.C15
import HbsLms.Props.C15Worker
import HbsLms.Props.C15Verify
import HbsLms.Props.C16
import HbsLms.Props.C16Sem
