/-
C08, the derivation: the private key blob and the public key that `hss_keygen` returns are those of the hash-sigs
reference, `Spec.HashSigs.blob` and `Spec.HashSigs.publicKey` (top-seed hashing, child seed and identifier derivation,
chain starts, RFC 8554 sections 4.3, 5.3 and 6.1, all written as plain formulas); likewise each derivation function on
its own and the levels of an expanded key. The hash function is arbitrary throughout.
-/
import HbsLms.Lemmas.KeygenRefine
import HbsLms.Lemmas.Positions
import HbsLms.Props.C14
import HbsLms.Props.C08Toy

namespace Props.C08Derive

open Impl Generated Lemmas Lemmas.Complete Lemmas.Layout Lemmas.KeygenRefine

/-- C08. For every build configuration that `build.rs` accepts, every non-empty list of table rows within the build
limits whose signature length fits a `u16`, and every seed of `H.n` bytes, `hss_keygen` (without aux data) returns the
private key blob and the public key of the hash-sigs reference (`keygen_layout` spells both out) and leaves no aux
data behind. -/
theorem keygen_is_hashsigs (H : HashFn) (cfg : Config) (hv : cfg.valid = true) (ps : List HssParam) (seed : Bytes)
    (hrows : ∀ p ∈ ps, IsOtsRow H.n p.ots ∧ IsLmsRow p.lms) (hne : ps ≠ [])
    (hlen : ps.length ≤ cfg.maxLevels) (hlim : ∀ i (h : i < ps.length), cfg.withinLimits i ps[i] = true)
    (hsl : hssSigLen H.n ps ≤ 65535) (hseed : seed.length = H.n) :
    hssKeygen H cfg ps seed none =
      .ok ⟨some (Spec.HashSigs.blob ps seed, Spec.HashSigs.publicKey H ps seed), none, []⟩ := by
  cases ps with
  | nil => exact absurd rfl hne
  | cons p0 rest =>
    have hn : H.n ≤ 32 := (ots_row_props (hrows p0 (by simp)).1).n_le
    obtain ⟨pb₁, vk, hk, -⟩ := Props.C14.keygen_within_limits H cfg hv (p0 :: rest) seed hrows hne hlen hlim hsl
      (by simp only [MAX_SEED_LEN]; omega)
    obtain ⟨hb, hp⟩ := bytesOfParams_roundtrip (cfg := cfg) hrows hne ⟨hlen, hlim⟩ (decide_eq_true hsl)
    -- the outcome in closed form, and the parameter bytes in closed form
    obtain ⟨hres, -, -⟩ := KeygenOutcome.mk.inj (Except.ok.inj ((hssKeygen_none_eq hb hp rfl seed).symm.trans hk))
    obtain ⟨hskb, hvk⟩ := AuxCache.keygenResult_eq_some hres
    rw [hk, hskb, hvk, encodeParams_eq hrows]
    have e1 : Bytes.u64be 0 ++ (List.map (fun p => Spec.HashSigs.paramByte p.lms.typeId p.ots.typeId) (p0 :: rest) ++
        List.replicate (8 - (p0 :: rest).length) 0xff) ++ seed = Spec.HashSigs.blob (p0 :: rest) seed := by
      simp only [Spec.HashSigs.blob, Refine.u64str_eq, Spec.HashSigs.maxLevels, List.append_assoc]
    have e2 : Bytes.u32be (p0 :: rest).length ++ lmsPublicKeyBytes (rootKey H seed p0) (T H (rootKey H seed p0) p0.lms.h 1)
        = Spec.HashSigs.publicKey H (p0 :: rest) seed := by
      change Bytes.u32be (p0 :: rest).length ++ pkBytes H (rootKey H seed p0) = _
      rw [pkBytes_eq, rootKey_eq H seed p0 hseed hn]
      simp only [Spec.HashSigs.publicKey, Refine.u32str_eq]
    rw [e1, e2]

/-- the two keys of the hash-sigs reference, spelled out -/
theorem keygen_layout (H : HashFn) (p0 : HssParam) (rest : List HssParam) (seed : Bytes) :
    Spec.HashSigs.blob (p0 :: rest) seed =
      [0, 0, 0, 0, 0, 0, 0, 0] ++ (p0 :: rest).map (fun p => UInt8.ofNat (p.lms.typeId * 16 + p.ots.typeId)) ++
        List.replicate (8 - (p0 :: rest).length) 0xff ++ seed ∧
    Spec.HashSigs.publicKey H (p0 :: rest) seed =
      Spec.u32str (p0 :: rest).length ++ (Spec.u32str p0.lms.typeId ++ Spec.u32str p0.ots.typeId ++
        (Spec.HashSigs.topSeed H seed).2 ++
        Spec.HashSigs.T H (Spec.HashSigs.topSeed H seed).2 (Spec.HashSigs.topSeed H seed).1 p0.ots.w p0.ots.p p0.lms.h
          p0.lms.h 1) := by
  constructor
  · simp only [Spec.HashSigs.blob, Spec.HashSigs.paramByte, Spec.HashSigs.maxLevels]
    rfl
  · rfl

/-- the nibbles of a parameter byte are the two type codes (for table rows: both codes are below 16) -/
theorem paramByte_nibbles (lmsType otsType : Nat) (h1 : lmsType < 16) (h2 : otsType < 16) :
    (Spec.HashSigs.paramByte lmsType otsType).toNat / 16 = lmsType ∧
    (Spec.HashSigs.paramByte lmsType otsType).toNat % 16 = otsType := by
  simp only [Spec.HashSigs.paramByte, UInt8.toNat_ofNat']
  omega

/-- `generate_root_seed_and_lms_tree_identifier` = hash-sigs top-seed hashing -/
theorem rootSeedAndId_is_topSeed (H : HashFn) (seed : Bytes) (hs : seed.length = H.n) (hn : H.n ≤ 32) :
    rootSeedAndId H seed = Spec.HashSigs.topSeed H seed := rootSeedAndId_eq H seed hs hn

/-- `SeedDerive::seed_derive` = the hash-sigs PRNG, whose buffer is zero-padded to 55 bytes -/
theorem seedDerive_is_prng (H : HashFn) (seed I : Bytes) (q j : Nat) (hs : seed.length = H.n) (hn : H.n ≤ 32)
    (hI : I.length = 16) : seedDerive H seed I q j = Spec.HashSigs.prng H seed I q j :=
  seedDerive_eq H seed I q j hI (by omega)

/-- child seed (`j = 0xfffe`) and child identifier (`j = 0xffff`, 16 bytes) -/
theorem childSeedAndId_is_spec (H : HashFn) (seed I : Bytes) (q : Nat) (hs : seed.length = H.n) (hn : H.n ≤ 32)
    (hI : I.length = 16) :
    childSeedAndId H seed I q = (Spec.HashSigs.childSeed H seed I q, Spec.HashSigs.childI H seed I q) :=
  childSeedAndId_eq H seed I q hI (by omega)

/-- signature randomizer (`j = 0xfffd`) -/
theorem signatureRandomizer_is_spec (H : HashFn) (seed I : Bytes) (q : Nat) (hs : seed.length = H.n) (hn : H.n ≤ 32)
    (hI : I.length = 16) : signatureRandomizer H seed I q = Spec.HashSigs.randomizer H seed I q :=
  signatureRandomizer_eq H seed I q hI (by omega)

/-- chain starts `x[q][i]`, `i < p` (Appendix A) -/
theorem lmotsPrivateKey_is_x (H : HashFn) (I seed : Bytes) (q : Nat) (prm : LmotsParam) :
    lmotsPrivateKey H I (Bytes.u32be q) seed prm = (List.range prm.p).map fun i => Spec.HashSigs.x H I seed q i := by
  unfold lmotsPrivateKey
  simp only [Spec.HashSigs.x, Refine.u32str_eq, Refine.u16str_eq, Spec.u8str]
  rfl

/-- one-time public key `OTS_PUB[q]` (RFC 8554 Algorithm 1) over those chain starts -/
theorem lmotsPublicKey_is_otsPub (H : HashFn) (I seed : Bytes) (q : Nat) (prm : LmotsParam) :
    lmotsPublicKey H I (Bytes.u32be q) prm (lmotsPrivateKey H I (Bytes.u32be q) seed prm)
      = Spec.HashSigs.otsPub H I seed prm.w prm.p q := lmotsPublicKey_eq H I seed q prm

/-- leaves `T[r]` of the section 5.3 tree -/
theorem leafNode_is_T (H : HashFn) (k : LmsKey) (r : Nat) :
    leafNode H k r = Spec.HashSigs.T H k.I k.seed k.ots.w k.ots.p k.lms.h 0 r := leafNode_eq H k r

/-- `get_tree_element` without a cache, for a node `r` on level `j ≤ h` of the tree: RFC 8554 section 5.3 `T[r]` -/
theorem treeNode_is_T (H : HashFn) (k : LmsKey) (r j : Nat) (hj : j ≤ k.lms.h) (hlo : 2 ^ j ≤ r)
    (hhi : r < 2 ^ (j + 1)) :
    treeNode H k r none = (Spec.HashSigs.T H k.I k.seed k.ots.w k.ots.p k.lms.h (k.lms.h - j) r, none) := by
  rw [Complete.treeNode_none H k r j hj hlo hhi, T_eq]

/-- the root -/
theorem treeNode_root_is_T1 (H : HashFn) (k : LmsKey) :
    treeNode H k 1 none = (Spec.HashSigs.root H k.I k.seed k.ots.w k.ots.p k.lms.h, none) := by
  rw [treeNode_root, T_eq]; rfl

/-- `LmsPublicKey::to_binary_representation` of the root = the section 5.3 LMS public key -/
theorem lmsPublicKey_is_spec (H : HashFn) (k : LmsKey) :
    lmsPublicKeyBytes k (treeNode H k 1 none).1 = Spec.HashSigs.lmsPublicKey H k.I k.seed ⟨k.ots, k.lms⟩ := by
  rw [treeNode_root]
  exact pkBytes_eq H k

/-- one step of the derivation: the child tree below `parent` has the hash-sigs child seed and child identifier of the
parent's seed and identifier at the parent's current leaf -/
theorem childLevel_is_spec (H : HashFn) (parent : Level) (p : HssParam) (q : Nat) (hI : parent.key.I.length = 16)
    (hs : parent.key.seed.length = H.n) (h16 : 16 ≤ H.n) (hn : H.n ≤ 32) :
    (childLevel H parent p q).key.seed = Spec.HashSigs.childSeed H parent.key.seed parent.key.I parent.q ∧
    (childLevel H parent p q).key.I = Spec.HashSigs.childI H parent.key.seed parent.key.I parent.q ∧
    (childLevel H parent p q).key.I.length = 16 ∧ (childLevel H parent p q).key.seed.length = H.n ∧
    (childLevel H parent p q).key.ots = p.ots ∧ (childLevel H parent p q).key.lms = p.lms ∧
    (childLevel H parent p q).q = q := by
  obtain ⟨h1, h2⟩ := childLevel_lens H parent p q h16
  obtain ⟨h3, h4⟩ := childLevel_eq_spec H parent p q ⟨hI, hs⟩ hn
  exact ⟨h3, h4, h1, h2, rfl, rfl, rfl⟩

/-- The levels of the key `(counter c, parameters p0 :: rest, seed)`: level 0 has the top seed and identifier of
`seed`; level `j+1` has the child seed and child identifier of level `j` at level `j`'s current leaf. -/
theorem levels_derivation (H : HashFn) (seed : Bytes) (p0 : HssParam) (rest : List HssParam) (c : Nat)
    (hs : seed.length = H.n) (h16 : 16 ≤ H.n) (hn : H.n ≤ 32) :
    (topLevel H seed p0 rest c).key.seed = (Spec.HashSigs.topSeed H seed).1 ∧
    (topLevel H seed p0 rest c).key.I = (Spec.HashSigs.topSeed H seed).2 ∧
    ∀ j (hj : j + 1 < (topLevel H seed p0 rest c :: lowerLevels H seed p0 rest c).length),
      (topLevel H seed p0 rest c :: lowerLevels H seed p0 rest c)[j + 1].key.seed =
        Spec.HashSigs.childSeed H (topLevel H seed p0 rest c :: lowerLevels H seed p0 rest c)[j].key.seed
          (topLevel H seed p0 rest c :: lowerLevels H seed p0 rest c)[j].key.I
          (topLevel H seed p0 rest c :: lowerLevels H seed p0 rest c)[j].q ∧
      (topLevel H seed p0 rest c :: lowerLevels H seed p0 rest c)[j + 1].key.I =
        Spec.HashSigs.childI H (topLevel H seed p0 rest c :: lowerLevels H seed p0 rest c)[j].key.seed
          (topLevel H seed p0 rest c :: lowerLevels H seed p0 rest c)[j].key.I
          (topLevel H seed p0 rest c :: lowerLevels H seed p0 rest c)[j].q := by
  refine ⟨?_, ?_, ?_⟩
  · simp only [topLevel, rootKey_eq H seed p0 hs hn]
  · simp only [topLevel, rootKey_eq H seed p0 hs hn]
  · intro j hj
    have hjr : j < rest.length := by
      rw [List.length_cons, lowerLevels_length] at hj
      exact Nat.lt_of_succ_lt_succ hj
    -- level `j+1` is the `childLevel` of level `j` (`levelAt_succ`), which has a 16-byte identifier and an `H.n`-byte seed
    have e1 : (topLevel H seed p0 rest c :: lowerLevels H seed p0 rest c)[j + 1] =
        Positions.levelAt H seed p0 rest c (j + 1) := List.getElem_eq_getD _
    have e0 : (topLevel H seed p0 rest c :: lowerLevels H seed p0 rest c)[j] = Positions.levelAt H seed p0 rest c j :=
      List.getElem_eq_getD _
    rw [e1, e0, Positions.levelAt_succ H seed p0 rest c j hjr]
    exact childLevel_eq_spec H _ _ _
      (levels_lens H seed p0 rest c h16 _ (Positions.levelAt_mem H seed p0 rest c j (Nat.lt_succ_of_lt hjr))) hn

/-- the LMS public keys of levels 1 … L-1 that `HssPrivateKey::from` serialises (and the signature carries), each with
that level's own seed and identifier -/
theorem lower_public_keys (H : HashFn) (seed : Bytes) (p0 : HssParam) (rest : List HssParam) (c : Nat) :
    (expandedOf H seed p0 rest c).pubs =
      (lowerLevels H seed p0 rest c).map fun l =>
        Spec.HashSigs.lmsPublicKey H l.key.I l.key.seed ⟨l.key.ots, l.key.lms⟩ := by
  simp only [expandedOf, pkBytes_eq]

/-- the randomizers: a level signs its child's public key with the randomizer of the CHILD's seed and identifier at
the PARENT's leaf (as `HssPrivateKey::from` does), and the bottom level signs the message with the randomizer of its
own seed and identifier at its own leaf -/
theorem randomizers_are_spec (H : HashFn) (l : Level) (hl : l.key.I.length = 16 ∧ l.key.seed.length = H.n)
    (h16 : 16 ≤ H.n) (hn : H.n ≤ 32) :
    msgC H l = Spec.HashSigs.randomizer H l.key.seed l.key.I l.q ∧
    linkC H l = Spec.HashSigs.randomizer H (Spec.HashSigs.childSeed H l.key.seed l.key.I l.q)
      (Spec.HashSigs.childI H l.key.seed l.key.I l.q) l.q := by
  obtain ⟨hI, hs⟩ := hl
  constructor
  · exact signatureRandomizer_eq H _ _ _ hI (by omega)
  · unfold linkC
    rw [childSeedAndId_eq H _ _ _ hI (by omega)]
    refine signatureRandomizer_eq H _ _ _ ?_ ?_
    · simp only [Spec.HashSigs.childI, List.length_take, prng_length]; omega
    · simp only [Spec.HashSigs.childSeed, prng_length]; omega

/-- Whatever `hss_sign_core` assembles (no aux data) is
`u32str(L-1) ‖ (sig_i ‖ pub_{i+1})_{i < L-1} ‖ bottom signature`, where `pub_{i+1}` is the specification's LMS public
key of level `i+1` and the levels are derived as in `levels_derivation`. -/
theorem signature_carries_spec_public_keys {H : HashFn} {cfg : Config} {msg : Bytes} {k : RefKey} {hs : List Nat}
    {sig : Bytes} {a : Option Bytes} {r : Bytes} (h : signPrepare H cfg msg k none = .ok (.ready hs sig a r)) :
    ∃ p0 rest, paramsOfBytes cfg H.n k.params = some (p0 :: rest) ∧
      sig = Bytes.u32be rest.length ++
        (List.zipWith (· ++ ·) (sigsOf H (topLevel H k.seed p0 rest k.counter) (lowerLevels H k.seed p0 rest k.counter))
          ((lowerLevels H k.seed p0 rest k.counter).map fun l =>
            Spec.HashSigs.lmsPublicKey H l.key.I l.key.seed ⟨l.key.ots, l.key.lms⟩)).flatten ++
        lmsSigBytes H (bottomLevel H k.seed p0 rest k.counter).key (bottomLevel H k.seed p0 rest k.counter).q msg
          (msgC H (bottomLevel H k.seed p0 rest k.counter)) ∧
      (lowerLevels H k.seed p0 rest k.counter).map levelParam = rest := by
  obtain ⟨p0, rest, hl⟩ := signPrepare_layout h
  refine ⟨p0, rest, hl.params, ?_, childrenOf_params _ _ _ _ _⟩
  rw [hl.sig, hssSigBytes_expanded H k.seed p0 rest k.counter msg, lower_public_keys]
  simp only [expandedOf, List.length_cons, Nat.add_sub_cancel, lowerLevels_length]

/-- the row and limit hypotheses of `keygen_is_hashsigs` for the list `[p, p]` under the default build -/
theorem two_level_hyps {n : Nat} (p : HssParam) (ho : IsOtsRow n p.ots) (hl : IsLmsRow p.lms)
    (h0 : Config.default.withinLimits 0 p = true) (h1 : Config.default.withinLimits 1 p = true) :
    (∀ q ∈ [p, p], IsOtsRow n q.ots ∧ IsLmsRow q.lms) ∧
    ∀ i (h : i < [p, p].length), Config.default.withinLimits i [p, p][i] = true := by
  refine ⟨fun q hq => ?_, fun i hi => ?_⟩
  · have : q = p := by simpa using hq
    rw [this]
    exact ⟨ho, hl⟩
  · match i, hi with
    | 0, _ => exact h0
    | 1, _ => exact h1

theorem toyParam_twice :
    (∀ q ∈ [toyParam, toyParam], IsOtsRow 16 q.ots ∧ IsLmsRow q.lms) ∧
    ∀ i (h : i < [toyParam, toyParam].length), Config.default.withinLimits i [toyParam, toyParam][i] = true :=
  two_level_hyps toyParam ⟨"LmotsW8", by decide⟩ ⟨"LmsH5", by decide⟩ (by decide) (by decide)

/-- a two-level key under the default build and the toy hash: all hypotheses of `keygen_is_hashsigs` hold -/
example (seed : Bytes) (hseed : seed.length = 16) :
    hssKeygen toyHash Config.default [toyParam, toyParam] seed none =
      .ok ⟨some (Spec.HashSigs.blob [toyParam, toyParam] seed,
                 Spec.HashSigs.publicKey toyHash [toyParam, toyParam] seed), none, []⟩ := by
  obtain ⟨hrows, hlim⟩ := toyParam_twice
  exact keygen_is_hashsigs toyHash Config.default (by decide) [toyParam, toyParam] seed hrows (by simp) (by decide) hlim
    (by decide) hseed

example (seed : Bytes) : Spec.HashSigs.blob [toyParam, toyParam] seed =
    [0, 0, 0, 0, 0, 0, 0, 0, 0x54, 0x54, 0xff, 0xff, 0xff, 0xff, 0xff, 0xff] ++ seed := by
  simp only [Spec.HashSigs.blob, Spec.HashSigs.maxLevels]
  rfl

/-- the same under a constant hash function -/
example : hssKeygen ⟨16, fun _ => List.replicate 16 7, fun _ => by simp⟩ Config.default [toyParam, toyParam]
      (List.replicate 16 1) none =
    .ok ⟨some (Spec.HashSigs.blob [toyParam, toyParam] (List.replicate 16 1),
               Spec.HashSigs.publicKey ⟨16, fun _ => List.replicate 16 7, fun _ => by simp⟩ [toyParam, toyParam]
                 (List.replicate 16 1)), none, []⟩ := by
  obtain ⟨hrows, hlim⟩ := toyParam_twice
  exact keygen_is_hashsigs _ Config.default (by decide) [toyParam, toyParam] _ hrows (by simp) (by decide) hlim
    (by decide) (by simp)

/-- `hss_keygen` returns the bytes of `toy_public_key` (by `keygen_is_hashsigs`, without running the model) -/
example : hssKeygen toyMix Config.default [toySmall, toySmall] toySeed none =
    .ok ⟨some ([0, 0, 0, 0, 0, 0, 0, 0, 0x12, 0x12, 0xff, 0xff, 0xff, 0xff, 0xff, 0xff,
                1, 2, 3, 4, 5, 6, 7, 8, 9, 10, 11, 12, 13, 14, 15, 16],
               [0, 0, 0, 2, 0, 0, 0, 1, 0, 0, 0, 2,
                239, 247, 79, 251, 150, 167, 143, 253, 197, 203, 254, 83, 195, 71, 220, 126,
                199, 227, 66, 113, 142, 161, 101, 56, 192, 199, 41, 208, 172, 178, 218, 28]), none, []⟩ := by
  obtain ⟨hrows, hlim⟩ := two_level_hyps (n := 16) toySmall ⟨"LmotsW2", by decide⟩ ⟨"LmsH2", by decide⟩ (by decide)
    (by decide)
  rw [keygen_is_hashsigs toyMix Config.default (by decide) [toySmall, toySmall] toySeed hrows (by simp) (by decide) hlim
    (by decide) (by decide), toy_public_key]
  rfl

end Props.C08Derive

#print axioms Props.C08Derive.keygen_is_hashsigs
#print axioms Props.C08Derive.keygen_layout
#print axioms Props.C08Derive.paramByte_nibbles
#print axioms Props.C08Derive.rootSeedAndId_is_topSeed
#print axioms Props.C08Derive.seedDerive_is_prng
#print axioms Props.C08Derive.childSeedAndId_is_spec
#print axioms Props.C08Derive.signatureRandomizer_is_spec
#print axioms Props.C08Derive.lmotsPrivateKey_is_x
#print axioms Props.C08Derive.lmotsPublicKey_is_otsPub
#print axioms Props.C08Derive.leafNode_is_T
#print axioms Props.C08Derive.treeNode_is_T
#print axioms Props.C08Derive.treeNode_root_is_T1
#print axioms Props.C08Derive.lmsPublicKey_is_spec
#print axioms Props.C08Derive.childLevel_is_spec
#print axioms Props.C08Derive.levels_derivation
#print axioms Props.C08Derive.lower_public_keys
#print axioms Props.C08Derive.randomizers_are_spec
#print axioms Props.C08Derive.signature_carries_spec_public_keys
#print axioms Props.C08Derive.toy_public_key
