/-
The integer codecs, the byte slicing and the hash chain of `Spec/Rfc8554.lean` and `Spec/HashSigs.lean` are the
library's. Both refinements (verification against the RFC, key generation against hash-sigs) start from these equations.
-/
import HbsLms.Impl.Lmots
import HbsLms.Spec.HashSigs
import HbsLms.Lemmas.Bytes

namespace Lemmas.Refine

open Impl

theorem u32str_eq (v : Nat) : Spec.u32str v = Bytes.u32be v := by
  simp [Spec.u32str, Bytes.u32be, Bytes.be]

theorem u16str_eq (v : Nat) : Spec.u16str v = Bytes.u16be v := by
  simp [Spec.u16str, Bytes.u16be, Bytes.be]

theorem u64str_eq (v : Nat) : Spec.HashSigs.u64str v = Bytes.u64be v := by
  simp [Spec.HashSigs.u64str, Bytes.u64be, Bytes.be]

theorem _root_.Lemmas.KeygenRefine.spec_zeros (a : Nat) : Spec.HashSigs.zeros a = Bytes.zeros a := rfl

theorem strTou32_eq (b : Bytes) (h : b.length = 4) : Spec.strTou32 b = Bytes.toNat b := by
  match b, h with
  | [a, b, c, d], _ =>
    simp only [Spec.strTou32, Bytes.toNat, List.foldl, List.getD_eq_getElem?_getD, List.getElem?_cons_zero,
      List.getElem?_cons_succ, Option.getD_some]
    omega

theorem bytesAt_eq (s : Bytes) (a l : Nat) : Spec.bytesAt s a l = Bytes.slice s a l := rfl

theorem slice_all (b : Bytes) (l : Nat) (h : b.length = l) : Bytes.slice b 0 l = b := by
  simp [Bytes.slice, ← h]

/-- the 32-bit field at offset `a`, as the specification reads it -/
abbrev u32 (s : Bytes) (a : Nat) : Nat := Spec.strTou32 (Spec.bytesAt s a 4)

theorem u32_eq {s : Bytes} {a : Nat} (h : a + 4 ≤ s.length) : u32 s a = Bytes.toNat (Bytes.slice s a 4) :=
  strTou32_eq _ (Bytes.slice_length h)

theorem chainFrom_eq (H : HashFn) (I : Bytes) (q i : Nat) : ∀ (cnt j : Nat) (x : Bytes),
    chainFrom H I (Bytes.u32be q) i cnt j x =
      (List.range' j cnt).foldl (fun tmp j => H.h (I ++ Spec.u32str q ++ Spec.u16str i ++ Spec.u8str j ++ tmp)) x := by
  intro cnt
  induction cnt with
  | zero => intro j x; rfl
  | succ c ih =>
    intro j x
    rw [chainFrom, ih, List.range'_succ, List.foldl_cons]
    simp only [chainStep, u32str_eq, u16str_eq, Spec.u8str]

theorem chain_eq (H : HashFn) (I : Bytes) (q i : Nat) (y : Bytes) (a e : Nat) :
    chain H I (Bytes.u32be q) i y a e = Spec.chainRfc H I q i a e y := by
  unfold chain Spec.chainRfc
  exact chainFrom_eq H I q i _ _ _

end Lemmas.Refine
