/-
Facts about the generated parameter tables, proved by kernel evaluation over the whole (finite) table and lifted to
`∀ n t` by lookup lemmas; if a table entry changes, the `decide` below is what breaks.
-/
import HbsLms.Impl.Params

namespace Lemmas

open Generated

theorem lookup_some_mem {α β} [BEq α] [LawfulBEq α] {l : List (α × β)} {k : α} {v : β}
    (h : l.lookup k = some v) : (k, v) ∈ l := by
  obtain ⟨l₁, l₂, rfl, _⟩ := List.lookup_eq_some_iff.mp h
  exact List.mem_append_right _ List.mem_cons_self

def IsOtsRow (n : Nat) (p : LmotsParam) : Prop := ∃ v, Params.lmotsConstruct n v = some p
def IsLmsRow (p : LmsParam) : Prop := ∃ v, Params.lmsConstruct v = some p

theorem lmotsGetFromType_eq_some {n t : Nat} {p : LmotsParam} : Params.lmotsGetFromType n t = some p ↔
    ∃ v, Generated.lmotsGetFromType.lookup t = some v ∧ Params.lmotsConstruct n v = some p := by
  simp only [Params.lmotsGetFromType, Option.bind_eq_bind, Option.bind_eq_some_iff]

theorem lmsGetFromType_eq_some {t : Nat} {p : LmsParam} : Params.lmsGetFromType t = some p ↔
    ∃ v, Generated.lmsGetFromType.lookup t = some v ∧ Params.lmsConstruct v = some p := by
  simp only [Params.lmsGetFromType, Option.bind_eq_bind, Option.bind_eq_some_iff]

theorem isOtsRow_of_getFromType {n t : Nat} {p : LmotsParam} (h : Params.lmotsGetFromType n t = some p) :
    IsOtsRow n p :=
  let ⟨v, _, hc⟩ := lmotsGetFromType_eq_some.mp h
  ⟨v, hc⟩

theorem isLmsRow_of_getFromType {t : Nat} {p : LmsParam} (h : Params.lmsGetFromType t = some p) : IsLmsRow p :=
  let ⟨v, _, hc⟩ := lmsGetFromType_eq_some.mp h
  ⟨v, hc⟩

theorem lmotsGetFromType_type_mem {n t : Nat} {p : LmotsParam} (h : Params.lmotsGetFromType n t = some p) :
    t ∈ Generated.lmotsGetFromType.map (·.1) :=
  let ⟨_, hv, _⟩ := lmotsGetFromType_eq_some.mp h
  List.mem_map.mpr ⟨_, lookup_some_mem hv, rfl⟩

theorem lmsGetFromType_type_mem {t : Nat} {p : LmsParam} (h : Params.lmsGetFromType t = some p) :
    t ∈ Generated.lmsGetFromType.map (·.1) :=
  let ⟨_, hv, _⟩ := lmsGetFromType_eq_some.mp h
  List.mem_map.mpr ⟨_, lookup_some_mem hv, rfl⟩

/-! Two Boolean predicates on an LM-OTS row, each with a structure that states as propositions what it tests.
`OtsRowGood` is what signing and verification need of a row: the lemmas about them take `OtsRowGood n p = true` as
their hypothesis, and `OtsGoodProps` (through `ots_good_props`) names its conjuncts. `OtsRowCheck` adds what is known
of type codes and chain counts and exists only to be evaluated, once, on every row of the table
(`all_ots_rows_check`); `OtsRowProps` (through `ots_row_props`, for every `IsOtsRow`) names its conjuncts, and is how
the other files read a fact off the table. -/

/-- what `MAX_NUM_WINTERNITZ_CHAINS` (constants.rs) is computed from -/
def chainsMaxHash (w : Nat) : Nat := (Params.chains w MAX_HASH_SIZE).getD 0

/-- what verifier and signer need of an LM-OTS row; the seventh conjunct is `p.p ≤ chainsMaxHash p.w` written out -/
def OtsRowGood (n : Nat) (p : LmotsParam) : Bool :=
  (p.w == 1 || p.w == 2 || p.w == 4 || p.w == 8) &&
  decide (p.p * p.w ≤ 8 * n + 16) && decide (8 * n ≤ p.p * p.w) &&
  decide ((8 * n / p.w) * (2 ^ p.w - 1) < 65536) &&
  decide (n ≤ MAX_HASH_SIZE) && decide (0 < n) &&
  decide (p.p ≤ (Params.chains p.w MAX_HASH_SIZE).getD 0) && decide (p.ls ≤ 8) &&
  decide (n * (1 + p.p) + 4 < 65536)

structure OtsGoodProps (n : Nat) (p : LmotsParam) : Prop where
  w_mem : p.w ∈ [1, 2, 4, 8]
  /-- all `p` digits lie in the digest and its two checksum bytes -/
  digits_le : p.p * p.w ≤ 8 * n + 16
  /-- and they cover the digest -/
  digest_le : 8 * n ≤ p.p * p.w
  /-- the checksum fits a `u16` before it is shifted -/
  cksm_lt : (8 * n / p.w) * (2 ^ p.w - 1) < 65536
  /-- 32 is `MAX_HASH_SIZE` -/
  n_le : n ≤ 32
  n_pos : 0 < n
  p_le : p.p ≤ chainsMaxHash p.w
  /-- `checksum <<= ls` (lm_ots/parameters.rs) shifts a `u16` and faults from 16 on; the largest in the table is 7 -/
  ls_le : p.ls ≤ 8
  /-- `lmots_signature_length n p.p` fits the `u16` length field of an `ArrayVec` -/
  sigLen_lt : n * (1 + p.p) + 4 < 65536

theorem ots_good_props {n : Nat} {p : LmotsParam} (h : OtsRowGood n p = true) : OtsGoodProps n p := by
  simp only [OtsRowGood, Bool.and_eq_true, Bool.or_eq_true, beq_iff_eq, decide_eq_true_eq, and_assoc, or_assoc] at h
  obtain ⟨hw, h1, h2, h3, h4, h5, h6, h7, h8⟩ := h
  exact ⟨by simpa using hw, h1, h2, h3, h4, h5, h6, h7, h8⟩

namespace FastVerify
theorem w_pos {n : Nat} {p : LmotsParam} (hg : OtsRowGood n p = true) : 0 < p.w := by
  have := (ots_good_props hg).w_mem
  simp only [List.mem_cons, List.mem_nil_iff, or_false] at this
  omega
end FastVerify

/-- hash lengths for which a chain count exists -/
def hashLens : List Nat := chainOIndex.map (·.1)

/-- every row any lookup can produce -/
def allOtsRows : List (Nat × LmotsParam) :=
  hashLens.flatMap fun n => (lmotsConstruct.map (·.1)).filterMap fun v => (Params.lmotsConstruct n v).map fun p => (n, p)

theorem ots_row_mem {n : Nat} {p : LmotsParam} (h : IsOtsRow n p) : (n, p) ∈ allOtsRows := by
  obtain ⟨v, h0⟩ := h
  -- `lmotsConstruct` hits only if the variant name hits the construct table (`hrow`) and `chains` hits (`hc`),
  have h := h0
  simp only [Params.lmotsConstruct, Option.bind_eq_bind, Option.bind_eq_some_iff] at h
  obtain ⟨row, hrow, _, _, c, hc, _⟩ := h
  -- and `chains` only if `n` hits the column index of the chain table (`ho`)
  simp only [Params.chains, Option.bind_eq_bind, Option.bind_eq_some_iff] at hc
  obtain ⟨_, _, oi, ho, _⟩ := hc
  exact List.mem_flatMap.2 ⟨n, List.mem_map.mpr ⟨_, lookup_some_mem ho, rfl⟩,
    List.mem_filterMap.2 ⟨v, List.mem_map.mpr ⟨_, lookup_some_mem hrow, rfl⟩, by rw [h0]; rfl⟩⟩

def OtsRowCheck (n : Nat) (p : LmotsParam) : Bool :=
  OtsRowGood n p && (n == 16 || n == 24 || n == 32) && decide (p.typeId < 15) &&
  [1, 2, 4, 8].all (fun w => !decide (w ≤ p.w) || decide (p.p ≤ chainsMaxHash w)) &&
  decide (Params.lmotsFromU32 n p.typeId = some p) && decide (Params.lmotsGetFromType n p.typeId = some p) &&
  (Generated.lmotsGetFromType.map (·.1)).all
    (fun t => !decide (Params.lmotsGetFromType n t = some p) || decide (p.typeId = t))

theorem all_ots_rows_check : allOtsRows.all (fun x => OtsRowCheck x.1 x.2) = true := by decide +kernel

theorem all_ots_rows_good : allOtsRows.all (fun x => OtsRowGood x.1 x.2) = true := by
  apply List.all_eq_true.mpr
  intro x hx
  have := List.all_eq_true.mp all_ots_rows_check x hx
  simp only [OtsRowCheck, Bool.and_eq_true, and_assoc] at this
  exact this.1

structure OtsRowProps (n : Nat) (p : LmotsParam) : Prop extends OtsGoodProps n p where
  good : OtsRowGood n p = true
  hashLen : n = 16 ∨ n = 24 ∨ n = 32
  /-- the type code fits the low nibble of a parameter byte and is not the low nibble of `PARAM_SET_END` -/
  typeId_lt : p.typeId < 15
  /-- no more chains than any Winternitz value up to the row's own allows for the longest hash; at the least value of a
  build that is its `MAX_NUM_WINTERNITZ_CHAINS` -/
  chains_le : ∀ w ∈ [1, 2, 4, 8], w ≤ p.w → p.p ≤ chainsMaxHash w
  fromU32 : Params.lmotsFromU32 n p.typeId = some p
  getFromType : Params.lmotsGetFromType n p.typeId = some p
  typeId_unique : ∀ t ∈ Generated.lmotsGetFromType.map (·.1), Params.lmotsGetFromType n t = some p → p.typeId = t

theorem ots_row_props {n : Nat} {p : LmotsParam} (h : IsOtsRow n p) : OtsRowProps n p := by
  have := List.all_eq_true.mp all_ots_rows_check (n, p) (ots_row_mem h)
  simp only [OtsRowCheck, Bool.and_eq_true, Bool.or_eq_true, beq_iff_eq, decide_eq_true_eq, List.all_eq_true,
    Bool.not_eq_true', decide_eq_false_iff_not, or_assoc] at this
  obtain ⟨⟨⟨⟨⟨⟨hg, hn⟩, ht⟩, hc⟩, hu⟩, hgt⟩, hty⟩ := this
  exact ⟨ots_good_props hg, hg, hn, ht, fun w hw hle => (hc w hw).resolve_left (fun hnot => hnot hle), hu, hgt,
    fun t ht h => (hty t ht).resolve_left (fun hnot => hnot h)⟩

theorem OtsRowProps.n_ge {n : Nat} {p : LmotsParam} (h : OtsRowProps n p) : 16 ≤ n := by
  rcases h.hashLen with h | h | h <;> omega

theorem otsRowGood_of_getFromType {n t : Nat} {p : LmotsParam} (h : Params.lmotsGetFromType n t = some p) :
    OtsRowGood n p = true := (ots_row_props (isOtsRow_of_getFromType h)).good

theorem lmotsGetFromType_hashLen {n t : Nat} {p : LmotsParam} (h : Params.lmotsGetFromType n t = some p) :
    n = 16 ∨ n = 24 ∨ n = 32 := (ots_row_props (isOtsRow_of_getFromType h)).hashLen

theorem lmotsGetFromType_typeId {n t : Nat} {p : LmotsParam} (h : Params.lmotsGetFromType n t = some p) :
    p.typeId = t :=
  (ots_row_props (isOtsRow_of_getFromType h)).typeId_unique t (lmotsGetFromType_type_mem h) h

def allLmsRows : List LmsParam := (lmsConstruct.map (·.1)).filterMap Params.lmsConstruct

/-- the LMS counterpart of `OtsRowCheck`; `LmsRowProps` names its conjuncts -/
def LmsRowCheck (p : LmsParam) : Bool :=
  decide (p.h ≤ 25) && decide (0 < p.h) && decide (p.typeId < 16) &&
  decide (Params.lmsFromU32 p.typeId = some p) && decide (Params.lmsGetFromType p.typeId = some p) &&
  (Generated.lmsGetFromType.map (·.1)).all (fun t => !decide (Params.lmsGetFromType t = some p) || decide (p.typeId = t))

theorem all_lms_rows_check : allLmsRows.all LmsRowCheck = true := by decide +kernel

theorem lms_row_mem {p : LmsParam} (h : IsLmsRow p) : p ∈ allLmsRows := by
  obtain ⟨v, h0⟩ := h
  have h1 := h0
  simp only [Params.lmsConstruct, Option.bind_eq_bind, Option.bind_eq_some_iff] at h1
  obtain ⟨row, hrow, _⟩ := h1
  exact List.mem_filterMap.2 ⟨v, List.mem_map.mpr ⟨_, lookup_some_mem hrow, rfl⟩, h0⟩

structure LmsRowProps (p : LmsParam) : Prop where
  /-- 25 is the tallest tree of the table (`LmsH25`); so node numbers fit in 32 bits and shifts are small -/
  h_le : p.h ≤ 25
  h_pos : 0 < p.h
  /-- the type code fits the high nibble of a parameter byte (`CompressedParameterSet`) -/
  typeId_lt : p.typeId < 16
  fromU32 : Params.lmsFromU32 p.typeId = some p
  getFromType : Params.lmsGetFromType p.typeId = some p
  typeId_unique : ∀ t ∈ Generated.lmsGetFromType.map (·.1), Params.lmsGetFromType t = some p → p.typeId = t

theorem lms_row_props {p : LmsParam} (h : IsLmsRow p) : LmsRowProps p := by
  have := List.all_eq_true.mp all_lms_rows_check p (lms_row_mem h)
  simp only [LmsRowCheck, Bool.and_eq_true, decide_eq_true_eq, List.all_eq_true, Bool.or_eq_true, Bool.not_eq_true',
    decide_eq_false_iff_not, and_assoc] at this
  obtain ⟨h1, h2, h3, h4, h5, hty⟩ := this
  exact ⟨h1, h2, h3, h4, h5, fun t ht h => (hty t ht).resolve_left (fun hnot => hnot h)⟩

theorem lmsGetFromType_typeId {t : Nat} {p : LmsParam} (h : Params.lmsGetFromType t = some p) : p.typeId = t :=
  (lms_row_props (isLmsRow_of_getFromType h)).typeId_unique t (lmsGetFromType_type_mem h) h

/-- the parameter structures derive `BEq` and `DecidableEq` separately; the derived `==`, which `lms::verify::verify`
compares rows with, is equality -/
instance : LawfulBEq LmotsParam where
  rfl {a} := by cases a; simp [BEq.beq, instBEqLmotsParam.beq]
  eq_of_beq {a b} h := by cases a; cases b; simpa [BEq.beq, instBEqLmotsParam.beq] using h

instance : LawfulBEq LmsParam where
  rfl {a} := by cases a; simp [BEq.beq, instBEqLmsParam.beq]
  eq_of_beq {a b} h := by cases a; cases b; simpa [BEq.beq, instBEqLmsParam.beq] using h

end Lemmas
