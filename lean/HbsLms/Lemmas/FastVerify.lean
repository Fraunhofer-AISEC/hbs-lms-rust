/-
The `fast_verify` feature. Two ideas: (1) `fast_verify_eval` is `digits` with `mapM` replaced by an adding `foldlM`, so
its value is the sum of the digit vector `Lemmas.digits_eq_digitVec` gives for `digits`; (2) the worker loop and the
receiving loop are the same `foldl keepBest` ("first strict maximum").
-/
import HbsLms.Impl.FastVerifyWorker
import HbsLms.Lemmas.LmotsDigits

namespace Lemmas.FastVerify

open Impl Spec.AppendixB

/-- `fast_verify_eval` reads checksum digit `i` from the two checksum bytes at `index - n`: the subtraction cannot
underflow and the result is 0 or 1 -/
theorem ck_digit_index {n : Nat} {p : LmotsParam} (hg : OtsRowGood n p = true) {i : Nat}
    (hlo : n * 8 / p.w ≤ i) (hhi : i < p.p) : n ≤ coefIndex i p.w ∧ coefIndex i p.w - n < 2 := by
  have h1 := coefIndex_lt hg hhi
  have hw := (ots_good_props hg).w_mem
  have h2 : (n * 8 / p.w) * p.w = n * 8 := by
    rw [Nat.mul_comm n 8, ← u, Digits.u_eq hw, Nat.mul_assoc, Nat.mul_comm (8 / p.w), (Digits.w_mul_div hw).2, Nat.mul_comm]
  have h3 : (n * 8 / p.w) * p.w ≤ i * p.w := Nat.mul_le_mul_right _ hlo
  have h4 : n ≤ coefIndex i p.w := by unfold coefIndex; omega
  exact ⟨h4, by omega⟩

theorem digitVec_sum_le (n : Nat) (p : LmotsParam) (bs : Bytes) : (digitVec n p bs).sum ≤ p.p * (2 ^ p.w - 1) := by
  have := Digits.sum_map_le_length_mul (List.range p.p) _ (2 ^ p.w - 1)
    (fun i _ => Digits.rfcCoef_le (bs ++ Bytes.u16be (cksm n p.w p.ls bs)) i p.w)
  rwa [List.length_range] at this

theorem fastVerifyEval_eq {n : Nat} {p : LmotsParam} (hg : OtsRowGood n p = true) (bs : Bytes) (hl : bs.length = n) :
    fastVerifyEval n p bs = .ok (digitVec n p bs).sum := by
  have h2 := (ots_good_props hg).digest_le
  have hw := (ots_good_props hg).w_mem
  have hw0 := w_pos hg
  have hmax : n * 8 / p.w = u n p.w := by unfold u; rw [Nat.mul_comm]
  have hmp : u n p.w ≤ p.p := Nat.div_le_of_le_mul (Nat.mul_comm p.p p.w ▸ h2)
  have hmsg : ∀ i ∈ List.range (u n p.w), coefIndex i p.w < bs.length := fun i hi => by
    rw [hl]; exact Digits.msg_index_lt n p.w hw0 (List.mem_range.mp hi)
  have hM := Digits.coefMask_eq p.w
  have hadd := Digits.sum_sub_add (List.range (u n p.w)) (fun i => rfcCoef bs i p.w) (coefMask p.w)
    (fun i _ => hM ▸ Digits.rfcCoef_le bs i p.w)
  rw [List.length_range] at hadd
  have hle : ((List.range (u n p.w)).map fun i => rfcCoef bs i p.w).sum ≤ u n p.w * coefMask p.w :=
    hadd ▸ Nat.le_add_left _ _
  have hck : u n p.w * coefMask p.w - ((List.range (u n p.w)).map fun i => rfcCoef bs i p.w).sum =
      ((List.range (u n p.w)).map fun i => coefMask p.w - rfcCoef bs i p.w).sum := by
    rw [← hadd, Nat.add_sub_cancel]
  have hcks : (((List.range (u n p.w)).map fun i => coefMask p.w - rfcCoef bs i p.w).sum <<< p.ls) % 65536 =
      cksm n p.w p.ls bs := by rw [hM]; rfl
  unfold fastVerifyEval
  simp only [hmax]
  -- message digits: `coef` with another site string
  rw [foldlM_add_sum _ (fun i => rfcCoef bs i p.w) _ _ fun acc i hi _ => by
    rw [P.idx_of_lt (hmsg i hi)]
    exact congrArg (fun d => Except.ok (acc + d))
      (Digits.digit_getElem hw (digit_index_u16 hg (by have := List.mem_range.mp hi; omega)) (hmsg i hi))]
  simp only [P.ok_bind, hle, decide_true, P.require_true, Nat.zero_add, hck, hcks]
  -- checksum digits: digit `u + k` of `bs ++ ck`, read from `ck` at `index - n`
  rw [foldlM_add_sum _ (fun k => rfcCoef (bs ++ Bytes.u16be (cksm n p.w p.ls bs)) (u n p.w + k) p.w) _ _
    fun acc k hk _ => by
      have hk := List.mem_range.mp hk
      obtain ⟨h1, h2⟩ := ck_digit_index hg (i := u n p.w + k) (by omega) (by omega)
      simp only [h1, decide_true, if_true]
      have hidx : coefIndex (u n p.w + k) p.w < (bs ++ Bytes.u16be (cksm n p.w p.ls bs)).length := by
        rw [List.length_append, Bytes.u16be_length]; omega
      rw [P.idx_of_lt (by rw [Bytes.u16be_length]; exact h2),
        ← Digits.digit_getElem hw (digit_index_u16 hg (by omega)) hidx, List.getElem_append_right (hl ▸ h1)]
      simp only [hl]; rfl]
  congr 1
  have hp : p.p = u n p.w + (p.p - u n p.w) := by omega
  unfold digitVec
  conv => rhs; rw [hp, List.range_add, List.map_append, List.sum_append, List.map_map]
  congr 2
  exact List.map_congr_left fun i hi => (Digits.rfcCoef_append_left (hmsg i hi)).symm

/-- `2^w - 1 ≤ 32 w` on the four widths, so the score is at most `32 (p w) ≤ 32 (8 n + 16)` -/
theorem score_fits_u16 {n : Nat} {p : LmotsParam} (hg : OtsRowGood n p = true) : p.p * (2 ^ p.w - 1) < 65536 := by
  have hr := ots_good_props hg
  have h1 := hr.digits_le
  have h4 := hr.n_le
  have hw : 2 ^ p.w - 1 ≤ 32 * p.w := (by decide : ∀ w ∈ [1, 2, 4, 8], 2 ^ w - 1 ≤ 32 * w) p.w hr.w_mem
  have := Nat.mul_le_mul_left p.p hw
  rw [Nat.mul_left_comm] at this
  omega

/-- the loop body of both `optimize_message_hash` (receiving) and `thread_optimize_message_hash` -/
def keepBest (acc r : Nat × Bytes) : Nat × Bytes := if r.1 > acc.1 then (r.1, r.2) else acc

theorem selectTrailer_eq (l : List (Nat × Bytes)) (init : Bytes) :
    selectTrailer l init = (l.foldl keepBest (0, init)).2 := rfl

/-- `r` is the first strict maximum of `acc :: l`: at least `acc` and every element of `l`, and either `acc` itself or the
first element of `l` that lies above `acc` and above everything before it -/
structure FirstMax (l : List (Nat × Bytes)) (acc r : Nat × Bytes) : Prop where
  init_le : acc.1 ≤ r.1
  mem_le : ∀ x ∈ l, x.1 ≤ r.1
  first : r = acc ∨ acc.1 < r.1 ∧
    ∃ j : Nat, l[j]? = some r ∧ ∀ j' (y : Nat × Bytes), j' < j → l[j']? = some y → y.1 < r.1

theorem foldl_keepBest (l : List (Nat × Bytes)) (acc : Nat × Bytes) : FirstMax l acc (l.foldl keepBest acc) := by
  induction l generalizing acc with
  | nil => exact ⟨Nat.le_refl _, by simp, Or.inl rfl⟩
  | cons x t ih =>
    rw [List.foldl_cons]
    obtain ⟨h1, h2, h3⟩ := ih (keepBest acc x)
    generalize t.foldl keepBest (keepBest acc x) = r at h1 h2 h3
    have shift : ∀ j, (t[j]? = some r ∧ ∀ j' (y : Nat × Bytes), j' < j → t[j']? = some y → y.1 < r.1) → x.1 < r.1 →
        ∃ j, (x :: t)[j]? = some r ∧ ∀ j' (y : Nat × Bytes), j' < j → (x :: t)[j']? = some y → y.1 < r.1 := fun j ⟨e, hj⟩ hx =>
      ⟨j + 1, e, fun j' y hj' hy => by
        cases j' with
        | zero => cases hy; exact hx
        | succ j' => exact hj j' y (by omega) hy⟩
    unfold keepBest at h1 h3
    by_cases hgt : x.1 > acc.1
    · simp only [hgt, if_true] at h1 h3
      refine ⟨by omega, fun y hy => ?_, Or.inr ⟨by omega, ?_⟩⟩
      · rcases List.mem_cons.mp hy with rfl | hy
        · exact h1
        · exact h2 y hy
      · rcases h3 with e | ⟨e, j, hj⟩
        · exact ⟨0, by rw [e]; exact List.getElem?_cons_zero, fun j' _ hj' => by omega⟩
        · exact shift j hj e
    · simp only [hgt, if_false] at h1 h3
      refine ⟨h1, fun y hy => ?_, h3.imp id fun ⟨e, j, hj⟩ => ⟨e, shift j hj (by omega)⟩⟩
      rcases List.mem_cons.mp hy with rfl | hy
      · omega
      · exact h2 y hy

theorem foldl_keepBest_mem (l : List (Nat × Bytes)) (acc : Nat × Bytes) :
    l.foldl keepBest acc = acc ∨ l.foldl keepBest acc ∈ l :=
  (foldl_keepBest l acc).first.imp id fun ⟨_, _, hj, _⟩ => List.mem_of_getElem? hj

/-- the sequence of trial randomizers: `trialSeq H t j = H^j(t)` -/
def trialSeq (H : HashFn) : Bytes → Nat → Bytes
  | t, 0 => t
  | t, j+1 => trialSeq H (H.h t) j

/-- score of the `j`-th trial (0-based) of a worker started at `start` -/
def trialScore (H : HashFn) (p : LmotsParam) (pre start : Bytes) (j : Nat) : Nat :=
  (digitVec H.n p (H.h (pre ++ trialSeq H start (j + 1)))).sum

def trials (H : HashFn) (p : LmotsParam) (pre start : Bytes) (k : Nat) : List (Nat × Bytes) :=
  (List.range k).map fun j => (trialScore H p pre start j, trialSeq H start (j + 1))

theorem trials_succ (H : HashFn) (p : LmotsParam) (pre t : Bytes) (k : Nat) :
    trials H p pre t (k + 1) = (trialScore H p pre t 0, H.h t) :: trials H p pre (H.h t) k := by
  simp only [trials, List.range_succ_eq_map, List.map_cons, List.map_map]
  rfl

theorem trials_getElem? (H : HashFn) (p : LmotsParam) (pre t : Bytes) (k j : Nat) (r : Nat × Bytes) :
    (trials H p pre t k)[j]? = some r ↔ j < k ∧ r = (trialScore H p pre t j, trialSeq H t (j + 1)) := by
  simp only [trials, List.getElem?_eq_some_iff, List.length_map, List.length_range, List.getElem_map, List.getElem_range]
  exact ⟨fun ⟨h, e⟩ => ⟨h, e.symm⟩, fun ⟨h, e⟩ => ⟨h, e.symm⟩⟩

theorem trialSeq_succ_length (H : HashFn) (t : Bytes) (j : Nat) : (trialSeq H t (j + 1)).length = H.n := by
  induction j generalizing t with
  | zero => exact H.len_h t
  | succ j ih => exact ih (H.h t)

/-- `hr` is what the `copy_from_slice` of the loop body needs -/
theorem workerStep_eq (H : HashFn) {p : LmotsParam} (hg : OtsRowGood H.n p = true) (pre : Bytes) (st : WorkerState)
    (hr : st.randomizer.length = H.n) :
    workerStep H p pre st = .ok
      ⟨H.h st.trial, (keepBest (st.best, st.randomizer) (trialScore H p pre st.trial 0, H.h st.trial)).1,
        (keepBest (st.best, st.randomizer) (trialScore H p pre st.trial 0, H.h st.trial)).2⟩ := by
  have hs : fastVerifyEval H.n p (H.h (pre ++ H.h st.trial)) = .ok (trialScore H p pre st.trial 0) :=
    fastVerifyEval_eq hg _ (H.len_h _)
  unfold workerStep keepBest
  dsimp only
  rw [hs, P.ok_bind]
  by_cases hgt : trialScore H p pre st.trial 0 > st.best
  · rw [if_pos hgt, if_pos hgt, hr, H.len_h, beq_self_eq_true, P.require_true]
    rfl
  · rw [if_neg hgt, if_neg hgt]
    rfl

theorem workerLoop_eq (H : HashFn) {p : LmotsParam} (hg : OtsRowGood H.n p = true) (pre : Bytes) :
    ∀ (k : Nat) (st : WorkerState), st.randomizer.length = H.n →
    workerLoop H p pre k st = .ok
      ⟨trialSeq H st.trial k, ((trials H p pre st.trial k).foldl keepBest (st.best, st.randomizer)).1,
        ((trials H p pre st.trial k).foldl keepBest (st.best, st.randomizer)).2⟩ := by
  intro k
  induction k with
  | zero => intro st _; rfl
  | succ k ih =>
    intro st hr
    rw [workerLoop, workerStep_eq H hg pre st hr, P.ok_bind]
    rw [trials_succ, List.foldl_cons]
    refine ih ⟨_, _, _⟩ ?_
    show (keepBest _ _).2.length = H.n
    unfold keepBest
    split
    · exact H.len_h _
    · exact hr

theorem workerRun_eq (H : HashFn) {p : LmotsParam} (hg : OtsRowGood H.n p = true) (pre start : Bytes) (iters : Nat) :
    workerRun H p pre start iters = .ok ((trials H p pre start iters).foldl keepBest (0, Bytes.zeros H.n)) := by
  rw [workerRun, workerLoop_eq H hg pre iters ⟨start, 0, Bytes.zeros H.n⟩ (Bytes.zeros_length _), P.ok_bind]
  rfl

theorem optimizeTrailer_eq {H : HashFn} {p : LmotsParam} {pre : Bytes} {starts : List Bytes} {iters : Nat}
    {rs : List (Nat × Bytes)} (h : starts.mapM (fun start => workerRun H p pre start iters) = .ok rs) :
    optimizeTrailer H p pre starts iters = .ok (selectTrailer rs (Bytes.zeros H.n)) := by
  rw [optimizeTrailer, h, P.ok_bind]
  rfl

theorem foldl_keepBest_length (l : List (Nat × Bytes)) (acc : Nat × Bytes) (n : Nat) (ha : acc.2.length = n)
    (hall : ∀ r ∈ l, r.2.length = n) : (l.foldl keepBest acc).2.length = n := by
  rcases foldl_keepBest_mem l acc with h | h
  · rw [h]; exact ha
  · exact hall _ h

theorem trials_mem_length (H : HashFn) (p : LmotsParam) (pre t : Bytes) (k : Nat) :
    ∀ r ∈ trials H p pre t k, r.2.length = H.n := by
  intro r hr
  obtain ⟨j, _, rfl⟩ := List.mem_map.mp hr
  exact trialSeq_succ_length H t j

/-- the checks `hss_sign_mut` makes before it touches the message -/
structure Accepted (H : HashFn) (cfg : Config) (msg sk : Bytes) : Prop where
  long : H.n < msg.length
  zero_trailer : Bytes.allZero (msg.drop (msg.length - H.n)) = true
  key : ∃ k ps, RefKey.parse H.n sk = some k ∧ paramsOfBytes cfg H.n k.params = some ps

/-- refused: no callback, nothing released, message untouched -/
theorem hssSignMut_refused (H : HashFn) (cfg : Config) (msg trailer sk : Bytes) (cb : Bytes → Bool)
    (h : ¬ Accepted H cfg msg sk) : hssSignMut H cfg msg trailer sk cb = .ok (⟨none, [], none, []⟩, msg) := by
  unfold hssSignMut
  -- the four early returns in turn; if none is taken the call is `Accepted`
  by_cases hl : msg.length ≤ H.n
  · rw [if_pos hl]
    rfl
  rw [if_neg hl]
  cases hz : Bytes.allZero (msg.drop (msg.length - H.n)) with
  | false => rfl
  | true =>
    rw [if_neg (by decide)]
    cases hk : RefKey.parse H.n sk with
    | none => rfl
    | some k =>
      dsimp only
      cases hp : paramsOfBytes cfg H.n k.params with
      | none => rfl
      | some ps => exact absurd ⟨by omega, hz, k, ps, hk, hp⟩ h

theorem hssSignMut_accepted (H : HashFn) (cfg : Config) (msg trailer sk : Bytes) (cb : Bytes → Bool)
    (h : Accepted H cfg msg sk) :
    hssSignMut H cfg msg trailer sk cb =
      P.require "lm_ots/signing.rs:optimize_message_hash copy_from_slice" (trailer.length == H.n) >>= fun _ =>
        (hssSign H cfg (msg.take (msg.length - H.n) ++ trailer) sk cb none).map
          (fun o => (o, msg.take (msg.length - H.n) ++ trailer)) := by
  obtain ⟨hl, hz, k, ps, hk, hp⟩ := h
  unfold hssSignMut
  simp only [Nat.not_le.2 hl, hz, hk, hp]
  cases P.require "lm_ots/signing.rs:optimize_message_hash copy_from_slice" (trailer.length == H.n) with
  | error e => rfl
  | ok _ => cases hssSign H cfg (msg.take (msg.length - H.n) ++ trailer) sk cb none <;> rfl

end Lemmas.FastVerify
