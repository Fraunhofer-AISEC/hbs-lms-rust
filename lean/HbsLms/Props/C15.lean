/-
C15 - fast-verify signing yields ordinary valid signatures, touching only the trailer. Here: which trailer the receiving
loop selects, when `sign_mut` refuses, and that an accepted call is ordinary signing of the returned message. The worker
side is in Props/C15Worker; the end-to-end statement (what `sign_mut` releases verifies) is in Props/C15Verify.
-/
import HbsLms.Lemmas.FastVerify

namespace Props.C15

open Impl

/-- the receiving loop of `optimize_message_hash` ends with the trailer it started from or with one it received -/
theorem selected_trailer_is_initial_or_a_worker_result (results : List (Nat × Bytes)) (init : Bytes) :
    selectTrailer results init = init ∨ selectTrailer results init ∈ results.map (·.2) :=
  (Lemmas.FastVerify.foldl_keepBest_mem results (0, init)).imp (congrArg Prod.snd) (List.mem_map_of_mem (f := Prod.snd))

/-- Every schedule of the worker threads: in whatever order `results'` their results arrive, the receiving loop of
`optimize_message_hash` ends with the initial (zero) trailer or the randomizer reported by one of the workers. -/
theorem selected_trailer_any_schedule (results results' : List (Nat × Bytes)) (init : Bytes)
    (hp : results'.Perm results) :
    selectTrailer results' init = init ∨ selectTrailer results' init ∈ results.map (·.2) :=
  (selected_trailer_is_initial_or_a_worker_result results' init).imp id (hp.map _).mem_iff.mp

/-- the selected trailer has the hash output length whenever the initial trailer and all worker results do -/
theorem selected_trailer_length (results : List (Nat × Bytes)) (init : Bytes) (n : Nat)
    (hinit : init.length = n) (hall : ∀ r ∈ results, r.2.length = n) :
    (selectTrailer results init).length = n :=
  Lemmas.FastVerify.foldl_keepBest_length results (0, init) n hinit hall

/-- A message that is too short is refused: no callback, nothing released, message untouched. -/
theorem too_short_is_refused (H : HashFn) (cfg : Config) (msg trailer sk : Bytes) (cb : Bytes → Bool)
    (h : msg.length ≤ H.n) :
    hssSignMut H cfg msg trailer sk cb = .ok (⟨none, [], none, []⟩, msg) :=
  Lemmas.FastVerify.hssSignMut_refused H cfg msg trailer sk cb fun ha => Nat.not_le.2 ha.long h

/-- A message whose trailer is not all zero is refused: no callback, nothing released, message untouched. -/
theorem nonzero_trailer_is_refused (H : HashFn) (cfg : Config) (msg trailer sk : Bytes) (cb : Bytes → Bool)
    (hl : ¬ msg.length ≤ H.n) (hz : Bytes.allZero (msg.drop (msg.length - H.n)) = false) :
    hssSignMut H cfg msg trailer sk cb = .ok (⟨none, [], none, []⟩, msg) :=
  Lemmas.FastVerify.hssSignMut_refused H cfg msg trailer sk cb fun ha => Bool.noConfusion (ha.zero_trailer.symm.trans hz)

/-- On every input that passes the preconditions, `sign_mut` is exactly ordinary signing of the returned message
`prefix ‖ trailer`: same signature bytes, same callback trace (so exactly one leaf is consumed through the usual
protocol, C04), and the returned message differs from the input at most in its last `n` bytes. -/
theorem accepted_is_ordinary_signing_of_returned_message (H : HashFn) (cfg : Config) (msg trailer sk : Bytes)
    (cb : Bytes → Bool) (k : RefKey) (ps : List HssParam)
    (hl : ¬ msg.length ≤ H.n) (hz : Bytes.allZero (msg.drop (msg.length - H.n)) = true)
    (hk : RefKey.parse H.n sk = some k) (hp : paramsOfBytes cfg H.n k.params = some ps)
    (ht : trailer.length = H.n) :
    hssSignMut H cfg msg trailer sk cb =
      (hssSign H cfg (msg.take (msg.length - H.n) ++ trailer) sk cb none).map
        (fun o => (o, msg.take (msg.length - H.n) ++ trailer)) := by
  rw [Lemmas.FastVerify.hssSignMut_accepted H cfg msg trailer sk cb ⟨Nat.not_le.1 hl, hz, k, ps, hk, hp⟩,
    beq_iff_eq.2 ht]
  rfl

/-- the message `sign_mut` hands back has the length of the input and agrees with it outside the last `n` bytes -/
theorem returned_message_shape (msg trailer : Bytes) (n : Nat) (hl : ¬ msg.length ≤ n) (ht : trailer.length = n) :
    (msg.take (msg.length - n) ++ trailer).length = msg.length ∧
    (msg.take (msg.length - n) ++ trailer).take (msg.length - n) = msg.take (msg.length - n) := by
  constructor
  · rw [List.length_append, List.length_take, ht]
    omega
  · rw [List.take_append_of_le_length (by simp [List.length_take])]
    simp [List.take_take]

example : selectTrailer [(3, [1]), (7, [2]), (7, [3]), (5, [4])] [0] = [2] := by decide
example : selectTrailer [] [0, 0] = [0, 0] := by decide

end Props.C15

#print axioms Props.C15.selected_trailer_is_initial_or_a_worker_result
#print axioms Props.C15.selected_trailer_any_schedule
#print axioms Props.C15.selected_trailer_length
#print axioms Props.C15.too_short_is_refused
#print axioms Props.C15.nonzero_trailer_is_refused
#print axioms Props.C15.accepted_is_ordinary_signing_of_returned_message
#print axioms Props.C15.returned_message_shape
