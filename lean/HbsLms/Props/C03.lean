/-
C03: no one-time key position is used twice, over every history of one private key.  The key state machine is
`Spec.step` / `Spec.run` (Spec/History.lean), with `Impl.incrementCounter` as successor and `Impl.leavesOfCounter` as
leaf selection; a history is any finite list of accepted signatures, rejected callbacks, failed attempts and queries.
With total height at most 63 the leaves fit the 8-byte counter and `capacity hs = leavesTotal hs`; the theorems whose
proof does not mention `hsum` hold without it.  One `Impl.hssSign` call is tied to one `Spec.step` in Props/C05.lean.
-/
import HbsLms.Props.C05Tall

namespace Props.C03

open Impl Spec

/-- Every history of a fresh key releases the counters `0, 1, …, k-1`, in this order and each once, where `k` is the
number of accepted signing operations capped at the number of leaves; the key is then at counter `k`, or wiped once
every counter was released. -/
theorem released_counters_are_consecutive (hs : List Nat) (hsum : hs.sum ≤ 63) (ops : List Op) :
    ∃ k, k = min (accepts ops) (leavesTotal hs) ∧ k ≤ leavesTotal hs ∧
      (run hs (.live 0) ops).2 = List.range k ∧
      (run hs (.live 0) ops).1 = if k < leavesTotal hs then .live k else .wiped := by
  rw [← C05Tall.capacity_le63 hs hsum]
  exact C05Tall.released_counters_are_consecutive_all hs ops

/-- the same from any live counter below the number of leaves (a key that was reloaded mid-life) -/
theorem released_counters_from (hs : List Nat) (hsum : hs.sum ≤ 63) (ops : List Op) (c : Nat)
    (hc : c < leavesTotal hs) :
    ∃ k, k = min (accepts ops) (leavesTotal hs - c) ∧
      (run hs (.live c) ops).2 = List.range' c k ∧
      (run hs (.live c) ops).1 = if c + k < leavesTotal hs then .live (c + k) else .wiped := by
  rw [← C05Tall.capacity_le63 hs hsum] at hc ⊢
  exact C05Tall.released_counters_from_all hs ops c hc

/-- The released signature at index `n` (counted from 0) uses the leaf vector of counter `n`: the mixed-radix digits
of `n`. -/
theorem nth_released_uses_mixed_radix_leaves (hs : List Nat) (hsum : hs.sum ≤ 63) (ops : List Op) (n : Nat)
    (hn : n < (run hs (.live 0) ops).2.length) :
    (((run hs (.live 0) ops).2.map (leavesOfCounter hs))[n]?) = some (mixedRadix hs n) :=
  C05Tall.nth_released_uses_mixed_radix_leaves_all hs ops n hn

/-- No one-time key position is used twice: the leaf vectors of the released signatures of any history are
pairwise different. -/
theorem no_leaf_vector_released_twice (hs : List Nat) (hsum : hs.sum ≤ 63) (ops : List Op) :
    ((run hs (.live 0) ops).2.map (leavesOfCounter hs)).Nodup :=
  C05Tall.no_leaf_vector_released_twice_all hs ops

/-- the same for two indices into the list of released signatures -/
theorem distinct_releases_use_distinct_leaves (hs : List Nat) (hsum : hs.sum ≤ 63) (ops : List Op) (i j : Nat)
    (hij : i < j) (hj : j < (run hs (.live 0) ops).2.length) :
    leavesOfCounter hs ((run hs (.live 0) ops).2.getD i 0) ≠ leavesOfCounter hs ((run hs (.live 0) ops).2.getD j 0) :=
  C05Tall.distinct_releases_use_distinct_leaves_all hs ops i j hij hj

/-- A rejected callback, a failed attempt or a query never changes the persisted state and releases nothing. -/
theorem non_accepting_step_changes_nothing (hs : List Nat) (s : KeyState) (op : Op) (hop : op ≠ .signAccept) :
    step hs s op = (s, none) :=
  Lemmas.step_other hs s op hop

/-- Once wiped, nothing is ever released and the key stays wiped, whatever is attempted. -/
theorem wiped_key_releases_nothing (hs : List Nat) (ops : List Op) : run hs .wiped ops = (.wiped, []) :=
  Lemmas.run_wiped hs ops

/-- after a history that ended in the wiped state, any continuation releases nothing more -/
theorem nothing_released_after_wipe (hs : List Nat) (s : KeyState) (before after : List Op)
    (hw : (run hs s before).1 = .wiped) :
    run hs s (before ++ after) = (.wiped, (run hs s before).2) := by
  rw [Lemmas.run_append, hw, Lemmas.run_wiped]
  simp

/-- Rejections, failures and queries are invisible: the outcome of a history depends only on how many
signing operations were accepted. -/
theorem outcome_depends_only_on_accepted (hs : List Nat) (hsum : hs.sum ≤ 63) (ops ops' : List Op)
    (h : accepts ops = accepts ops') : run hs (.live 0) ops = run hs (.live 0) ops' :=
  C05Tall.outcome_depends_only_on_accepted_all hs ops ops' h

/-- No history releases more signatures than the key has leaves. -/
theorem released_count_le_leaves (hs : List Nat) (hsum : hs.sum ≤ 63) (ops : List Op) :
    (run hs (.live 0) ops).2.length ≤ leavesTotal hs :=
  C05Tall.released_count_le_leaves_all hs ops

/-- All leaves were used exactly when the key ended up wiped. -/
theorem all_leaves_used_iff_wiped (hs : List Nat) (hsum : hs.sum ≤ 63) (ops : List Op) :
    (run hs (.live 0) ops).2.length = leavesTotal hs ↔ (run hs (.live 0) ops).1 = .wiped :=
  C05Tall.all_leaves_used_iff_wiped_le64 hs (by omega) ops

/-- The same on the implementation model.  `Spec.session` runs any list of `Impl.hssSign` calls (arbitrary messages,
callbacks and aux buffers), the caller persisting exactly the keys its callback accepted.  On a key with a counter below
the number of leaves the released signatures come from keys with strictly increasing counters, so no counter and no
leaf vector serves two of them; there are at most as many as counters were left, and the key persisted at the end
holds a counter below the number of leaves or is the wiped key. -/
theorem session_never_reuses_a_leaf {H : HashFn} {cfg : Config} {k0 : RefKey} {ps : List HssParam}
    (hp8 : k0.params.length = 8) (hseed : k0.seed.length = H.n)
    (hps : paramsOfBytes cfg H.n k0.params = some ps) (hsum : (ps.map (·.lms.h)).sum ≤ 63)
    (hc0 : k0.counter < leavesTotal (ps.map (·.lms.h)))
    (calls : List Call) (skN : Bytes) (log : List (Bytes × Bytes))
    (h : session H cfg k0.bytes calls = .ok (skN, log)) :
    ∃ (cs : List Nat) (final : KeyState),
      log.map (·.1) = cs.map (fun c => ({ k0 with counter := c } : RefKey).bytes) ∧
      cs.Pairwise (· < ·) ∧
      (∀ c, c ∈ cs → k0.counter ≤ c ∧ c < leavesTotal (ps.map (·.lms.h))) ∧
      (cs.map (leavesOfCounter (ps.map (·.lms.h)))).Nodup ∧
      log.length ≤ leavesTotal (ps.map (·.lms.h)) - k0.counter ∧
      skN = (Lemmas.keyOfState k0 H.n final).bytes ∧ Lemmas.validState (ps.map (·.lms.h)) final := by
  have hcap := C05Tall.capacity_le63 _ hsum
  obtain ⟨cs, final, h1, h2, h3, h4, h5, h6, h7⟩ :=
    C05Tall.session_never_reuses_a_leaf_all hp8 hseed hps (hcap ▸ hc0) calls skN log h
  rw [hcap] at h3 h5
  exact ⟨cs, final, h1, h2, h3, h4, h5, h6, Lemmas.validState_of_cap h7⟩

-- non-vacuity: a two-level key with 2·2 = 4 leaves, signed through rejections, failures and queries until it is wiped
example : ([1, 1] : List Nat).sum ≤ 63 := by decide
example : run [1, 1] (.live 0)
    [.signAccept, .signReject, .signAccept, .query, .signFail, .signAccept, .signAccept, .signAccept, .query]
      = (.wiped, [0, 1, 2, 3]) := by decide
example : run [5, 10, 2] (.live 0) [.signReject, .signAccept, .signFail, .signAccept] = (.live 2, [0, 1]) := by decide
example : ([0, 1, 2, 3] : List Nat).map (leavesOfCounter [1, 1]) = [[0, 0], [0, 1], [1, 0], [1, 1]] := by decide

-- the session hypotheses hold of a fresh two-level H5/W8, H5/W8 key under the default configuration
example : (paramsOfBytes Config.default 32 [0x54, 0x54, 255, 255, 255, 255, 255, 255]).map (fun ps => ps.map (·.lms.h))
    = some [5, 5] := by decide +kernel
example : let k0 : RefKey := ⟨0, [0x54, 0x54, 255, 255, 255, 255, 255, 255], Bytes.zeros 32⟩
    k0.params.length = 8 ∧ k0.seed.length = 32 ∧ k0.counter < leavesTotal [5, 5] ∧ ([5, 5] : List Nat).sum ≤ 63 := by
  decide

end Props.C03

#print axioms Props.C03.released_counters_are_consecutive
#print axioms Props.C03.released_counters_from
#print axioms Props.C03.nth_released_uses_mixed_radix_leaves
#print axioms Props.C03.no_leaf_vector_released_twice
#print axioms Props.C03.distinct_releases_use_distinct_leaves
#print axioms Props.C03.non_accepting_step_changes_nothing
#print axioms Props.C03.wiped_key_releases_nothing
#print axioms Props.C03.nothing_released_after_wipe
#print axioms Props.C03.outcome_depends_only_on_accepted
#print axioms Props.C03.released_count_le_leaves
#print axioms Props.C03.all_leaves_used_iff_wiped
#print axioms Props.C03.session_never_reuses_a_leaf
