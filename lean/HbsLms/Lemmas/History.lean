/-
Histories of one key, for every key shape: the released counters of every history are c, c+1, …, each once, up to
the `capacity` of the shape; sessions of `Impl.hssSign` calls are such histories.
-/
import HbsLms.Lemmas.NormalForm
import HbsLms.Lemmas.PrivKey
import HbsLms.Spec.History

namespace Lemmas

open Impl Spec Generated

theorem step_accept (hs : List Nat) (c : Nat) :
    step hs (.live c) .signAccept
      = (if c + 1 < capacity hs then .live (c + 1) else .wiped, some c) := by
  simp only [step, incrementCounter_all hs c]
  by_cases h : c + 1 < capacity hs <;> simp [h]

theorem step_other (hs : List Nat) (s : KeyState) (op : Op) (hop : op ≠ .signAccept) :
    step hs s op = (s, none) := by
  cases s <;> cases op <;> first | rfl | exact absurd rfl hop

theorem step_wiped (hs : List Nat) (op : Op) : step hs .wiped op = (.wiped, none) := rfl

theorem run_nil (hs : List Nat) (s : KeyState) : run hs s [] = (s, []) := rfl

theorem run_cons (hs : List Nat) (s : KeyState) (op : Op) (ops : List Op) :
    run hs s (op :: ops)
      = ((run hs (step hs s op).1 ops).1, (step hs s op).2.toList ++ (run hs (step hs s op).1 ops).2) := rfl

theorem run_append (hs : List Nat) (s : KeyState) (a b : List Op) :
    run hs s (a ++ b) = ((run hs (run hs s a).1 b).1, (run hs s a).2 ++ (run hs (run hs s a).1 b).2) := by
  induction a generalizing s with
  | nil => simp [run_nil]
  | cons op a ih => simp only [List.cons_append, run_cons, ih, List.append_assoc]

theorem run_wiped (hs : List Nat) (ops : List Op) : run hs .wiped ops = (.wiped, []) := by
  induction ops with
  | nil => rfl
  | cons op ops ih => rw [run_cons, step_wiped]; simp [ih]

theorem accepts_cons_accept (ops : List Op) : accepts (.signAccept :: ops) = accepts ops + 1 := List.count_cons_self

theorem accepts_cons_other (op : Op) (ops : List Op) (hop : op ≠ .signAccept) : accepts (op :: ops) = accepts ops :=
  List.count_cons_of_ne hop

theorem accepts_replicate (n : Nat) : accepts (List.replicate n Op.signAccept) = n := List.count_replicate_self

/-- `k = min (accepts ops) (capacity hs - c)` of the accepted steps release `c, …, c + k - 1`; the key is wiped once that
uses up the capacity -/
theorem run_live (hs : List Nat) (ops : List Op) (c : Nat) (hc : c < capacity hs) :
    run hs (.live c) ops
      = (if c + min (accepts ops) (capacity hs - c) < capacity hs
          then .live (c + min (accepts ops) (capacity hs - c)) else .wiped,
         List.range' c (min (accepts ops) (capacity hs - c))) := by
  generalize hN : capacity hs = N at hc
  induction ops generalizing c with
  | nil => simp [run_nil, accepts, hc]
  | cons op ops ih =>
    by_cases hop : op = .signAccept
    · subst hop
      rw [run_cons, step_accept hs c, hN, accepts_cons_accept]
      by_cases h1 : c + 1 < N
      · -- the step releases `c`; the rest runs from `c + 1` with one accepted step less
        simp only [h1, if_true, ih (c + 1) h1, Option.toList_some]
        have hk : min (accepts ops + 1) (N - c) = min (accepts ops) (N - (c + 1)) + 1 := by omega
        rw [hk, List.range'_succ, Nat.add_assoc c, Nat.add_comm 1]
        rfl
      · -- `c` was the last counter: the step releases it and wipes the key
        simp only [h1, if_false, run_wiped, Option.toList_some]
        have hk : min (accepts ops + 1) (N - c) = 1 := by omega
        rw [hk]
        simp [h1]
    · rw [run_cons, step_other hs _ op hop, accepts_cons_other op ops hop]
      simp [ih c hc]

theorem run_fresh (hs : List Nat) (ops : List Op) :
    run hs (.live 0) ops
      = (if min (accepts ops) (capacity hs) < capacity hs then .live (min (accepts ops) (capacity hs)) else .wiped,
         List.range (min (accepts ops) (capacity hs))) := by
  rw [run_live hs ops 0 (capacity_pos hs)]
  simp [List.range_eq_range']

theorem run_fresh_live {hs : List Nat} {ops : List Op} {c : Nat} (h : (run hs (.live 0) ops).1 = .live c) :
    (run hs (.live 0) ops).2 = List.range c ∧ c < capacity hs := by
  rw [run_fresh hs ops] at h ⊢
  by_cases hk : min (accepts ops) (capacity hs) < capacity hs
  · rw [if_pos hk] at h
    cases h
    exact ⟨rfl, hk⟩
  · rw [if_neg hk] at h
    cases h

/-- the key blob that represents an abstract state (parameters and seed of `k`) -/
def keyOfState (k : RefKey) (n : Nat) : KeyState → RefKey
  | .live c => { k with counter := c }
  | .wiped => RefKey.wiped n

theorem keyOfState_counter (k : RefKey) (n c : Nat) (s : KeyState) :
    keyOfState { k with counter := c } n s = keyOfState k n s := by
  cases s <;> rfl

theorem increment_eq_step (k : RefKey) (n : Nat) (hs : List Nat) :
    k.increment n hs = keyOfState k n (step hs (.live k.counter) .signAccept).1 := by
  unfold RefKey.increment
  simp only [step]
  cases incrementCounter hs k.counter <;> rfl

theorem step_accept_released (hs : List Nat) (c : Nat) : (step hs (.live c) .signAccept).2 = some c := rfl

theorem keyOfState_live_self (k : RefKey) (n : Nat) : keyOfState k n (.live k.counter) = k := rfl

def validStateCap (hs : List Nat) : KeyState → Prop
  | .live c => c < capacity hs
  | .wiped => True

/-- `validStateCap` with the number of leaves as the bound: the same up to total height 64 -/
def validState (hs : List Nat) : KeyState → Prop
  | .live c => c < 2 ^ hs.sum
  | .wiped => True

theorem validState_of_cap {hs : List Nat} {s : KeyState} (h : validStateCap hs s) : validState hs s := by
  cases s with
  | wiped => trivial
  | live c => exact Nat.lt_of_lt_of_le h (capacity_le_leaves hs)

theorem validStateCap_step (hs : List Nat) (s : KeyState) (op : Op) (hv : validStateCap hs s) :
    validStateCap hs (step hs s op).1 := by
  by_cases hop : op = .signAccept
  · subst hop
    cases s with
    | wiped => trivial
    | live c =>
      rw [step_accept hs c]
      split
      · assumption
      · trivial
  · rw [step_other hs s op hop]; exact hv

theorem validStateCap_run (hs : List Nat) (ops : List Op) (s : KeyState) (hv : validStateCap hs s) :
    validStateCap hs (run hs s ops).1 := by
  induction ops generalizing s with
  | nil => exact hv
  | cons op ops ih => rw [run_cons]; exact ih _ (validStateCap_step hs s op hv)

theorem parse_keyOfState (n : Nat) (k0 : RefKey) (hs : List Nat) (hp8 : k0.params.length = 8)
    (hseed : k0.seed.length = n) (s : KeyState) (hv : validStateCap hs s) :
    RefKey.parse n (keyOfState k0 n s).bytes = some (keyOfState k0 n s) := by
  cases s with
  | wiped =>
    apply RefKey.parse_bytes <;> simp [keyOfState, RefKey.wiped, REF_IMPL_MAX_ALLOWED_HSS_LEVELS, Bytes.zeros]
  | live c => exact RefKey.parse_bytes n _ hp8 hseed (Nat.lt_of_lt_of_le hv (capacity_le_u64 hs))

theorem callOnce_eq_ok {H : HashFn} {cfg : Config} {sk : Bytes} {c : Call} {sk' : Bytes} {r : Option Bytes} :
    callOnce H cfg sk c = .ok (sk', r) ↔
      ∃ o, hssSign H cfg c.msg sk c.cb c.aux = .ok o ∧
        sk' = (match o.trace with | [k'] => if c.cb k' then k' else sk | _ => sk) ∧ r = o.result :=
  P.bind_eq_ok.trans (exists_congr fun _ => and_congr_right fun _ =>
    P.pure_eq_ok.trans ((Iff.of_eq (Prod.mk.injEq ..)).trans (and_congr eq_comm eq_comm)))

theorem session_nil_eq_ok {H : HashFn} {cfg : Config} {sk skN : Bytes} {log : List (Bytes × Bytes)} :
    session H cfg sk [] = .ok (skN, log) ↔ skN = sk ∧ log = [] :=
  P.pure_eq_ok.trans ((Iff.of_eq (Prod.mk.injEq ..)).trans (and_congr eq_comm eq_comm))

theorem session_cons_eq_ok {H : HashFn} {cfg : Config} {sk skN : Bytes} {c : Call} {cs : List Call}
    {log : List (Bytes × Bytes)} :
    session H cfg sk (c :: cs) = .ok (skN, log) ↔
      ∃ sk1 r log2, callOnce H cfg sk c = .ok (sk1, r) ∧ session H cfg sk1 cs = .ok (skN, log2) ∧
        log = (match r with | some sig => [(sk, sig)] | none => []) ++ log2 := by
  simp only [session, P.bind_eq_ok, P.pure_eq, Except.ok.injEq, Prod.mk.injEq, Prod.exists]
  constructor
  · rintro ⟨sk1, r, h1, sk2, log2, h2, rfl, rfl⟩
    exact ⟨sk1, r, log2, h1, h2, rfl⟩
  · rintro ⟨sk1, r, log2, h1, h2, rfl⟩
    exact ⟨sk1, r, h1, skN, log2, h2, rfl, rfl⟩

/-- One call on the key bytes of an abstract state `s` is one `step` of the state machine, for some operation `op`: the
key kept afterwards is that of the next state, and a signature is released only from a live state, whose counter the
step releases. -/
theorem callOnce_sim {H : HashFn} {cfg : Config} {k0 : RefKey} {ps : List HssParam}
    (hp8 : k0.params.length = 8) (hseed : k0.seed.length = H.n)
    (hps : paramsOfBytes cfg H.n k0.params = some ps)
    (s : KeyState) (hv : validStateCap (ps.map (·.lms.h)) s) (c : Call) (sk' : Bytes) (r : Option Bytes)
    (h : callOnce H cfg (keyOfState k0 H.n s).bytes c = .ok (sk', r)) :
    ∃ op, sk' = (keyOfState k0 H.n (step (ps.map (·.lms.h)) s op).1).bytes ∧
      ∀ sig, r = some sig → ∃ cnt, s = .live cnt ∧ (step (ps.map (·.lms.h)) s op).2 = some cnt := by
  obtain ⟨o, ho, rfl, rfl⟩ := callOnce_eq_ok.1 h
  obtain ⟨p, hp, rfl⟩ := hssSign_parsed (parse_keyOfState H.n k0 _ hp8 hseed s hv) ho
  cases p with
  | failed a rr =>
    exact ⟨.signFail, by rw [step_other _ _ .signFail (by decide)]; rfl, fun sig hsig => by cases hsig⟩
  | ready hs' sig a rr =>
    obtain ⟨ps', hps', -, rfl, -⟩ := AuxCache.signPrepare_ready_shape hp
    cases s with
    | wiped => rw [show (keyOfState k0 H.n .wiped).params = (RefKey.wiped H.n).params from rfl,
        wiped_params_unusable] at hps'; cases hps'
    | live cnt =>
      cases hps.symm.trans hps'
      have hinc : (keyOfState k0 H.n (.live cnt)).increment H.n (ps.map (·.lms.h))
          = keyOfState k0 H.n (step (ps.map (·.lms.h)) (.live cnt) .signAccept).1 := by
        rw [increment_eq_step]; exact keyOfState_counter k0 H.n cnt _
      rw [signCommit_ready, hinc]
      -- the callback decides between `signAccept` and `signReject`
      cases hcb : c.cb (keyOfState k0 H.n (step (ps.map (·.lms.h)) (.live cnt) .signAccept).1).bytes
      · refine ⟨.signReject, ?_, fun sg hsg => by simp at hsg⟩
        rw [step_other _ _ .signReject (by decide)]
        simp only [hcb, Bool.false_eq_true, if_false]
      · exact ⟨.signAccept, by simp only [hcb, if_true], fun sg _ => ⟨cnt, rfl, rfl⟩⟩

namespace Positions

/-- one released signature of a session: the counter of the key it was made with, the signed message, the bytes -/
structure Release where
  counter : Nat
  msg : Bytes
  sig : Bytes

end Positions

open Positions (Release)

/-- `Sublist` and not equality: a call whose successor key the callback accepts and whose signature `signCommit`
withholds for its length advances the key and logs nothing -/
theorem session_sim {H : HashFn} {cfg : Config} {k0 : RefKey} {ps : List HssParam}
    (hp8 : k0.params.length = 8) (hseed : k0.seed.length = H.n)
    (hps : paramsOfBytes cfg H.n k0.params = some ps)
    (calls : List Call) :
    ∀ (s : KeyState), validStateCap (ps.map (·.lms.h)) s → ∀ (skN : Bytes) (log : List (Bytes × Bytes)),
      session H cfg (keyOfState k0 H.n s).bytes calls = .ok (skN, log) →
      ∃ (ops : List Op) (rels : List Release),
        skN = (keyOfState k0 H.n (run (ps.map (·.lms.h)) s ops).1).bytes ∧
        (rels.map (·.counter)).Sublist (run (ps.map (·.lms.h)) s ops).2 ∧
        log = rels.map (fun r => (({ k0 with counter := r.counter } : RefKey).bytes, r.sig)) ∧
        ∀ r ∈ rels, ∃ c ∈ calls, c.msg = r.msg ∧ ∃ o,
          hssSign H cfg c.msg ({ k0 with counter := r.counter } : RefKey).bytes c.cb c.aux = .ok o ∧
            o.result = some r.sig := by
  induction calls with
  | nil =>
    intro s _ skN log h
    obtain ⟨rfl, rfl⟩ := session_nil_eq_ok.1 h
    exact ⟨[], [], rfl, List.Sublist.refl _, rfl, fun _ hr => nomatch hr⟩
  | cons c calls ih =>
    intro s hv skN log h
    obtain ⟨sk1, r, log2, h1, h2, rfl⟩ := session_cons_eq_ok.1 h
    obtain ⟨o, ho, -, hres⟩ := callOnce_eq_ok.1 h1
    obtain ⟨op, rfl, hrel⟩ := callOnce_sim hp8 hseed hps s hv c sk1 r h1
    obtain ⟨ops, rels, hsk, hsub, rfl, hcalls⟩ := ih _ (validStateCap_step _ s op hv) skN log2 h2
    cases r with
    | none =>
      exact ⟨op :: ops, rels, by rw [run_cons]; exact hsk,
        by rw [run_cons]; exact hsub.trans (List.sublist_append_right _ _), rfl,
        fun r hr => (hcalls r hr).imp fun _ => And.imp_left (List.mem_cons_of_mem _)⟩
    | some sig =>
      obtain ⟨cnt, rfl, hst⟩ := hrel sig rfl
      refine ⟨op :: ops, ⟨cnt, c.msg, sig⟩ :: rels, by rw [run_cons]; exact hsk,
        by rw [run_cons, hst]; exact hsub.cons_cons _, rfl, fun r hr => ?_⟩
      rcases List.mem_cons.1 hr with rfl | hr
      · exact ⟨c, List.mem_cons_self, rfl, o, ho, hres.symm⟩
      · exact (hcalls r hr).imp fun _ => And.imp_left (List.mem_cons_of_mem _)

theorem session_from_live {H : HashFn} {cfg : Config} {k0 : RefKey} {ps : List HssParam}
    (hp8 : k0.params.length = 8) (hseed : k0.seed.length = H.n)
    (hps : paramsOfBytes cfg H.n k0.params = some ps)
    (hc0 : k0.counter < capacity (ps.map (·.lms.h)))
    (calls : List Call) (skN : Bytes) (log : List (Bytes × Bytes))
    (h : session H cfg k0.bytes calls = .ok (skN, log)) :
    ∃ (rels : List Release) (final : KeyState),
      log = rels.map (fun r => (({ k0 with counter := r.counter } : RefKey).bytes, r.sig)) ∧
      (∀ r ∈ rels, ∃ c ∈ calls, c.msg = r.msg ∧ ∃ o,
        hssSign H cfg c.msg ({ k0 with counter := r.counter } : RefKey).bytes c.cb c.aux = .ok o ∧
          o.result = some r.sig) ∧
      (rels.map (·.counter)).Pairwise (· < ·) ∧
      (∀ c, c ∈ rels.map (·.counter) → k0.counter ≤ c ∧ c < capacity (ps.map (·.lms.h))) ∧
      ((rels.map (·.counter)).map (leavesOfCounter (ps.map (·.lms.h)))).Nodup ∧
      log.length ≤ capacity (ps.map (·.lms.h)) - k0.counter ∧
      skN = (keyOfState k0 H.n final).bytes ∧ validStateCap (ps.map (·.lms.h)) final := by
  obtain ⟨ops, rels, hsk, hsub, rfl, hcalls⟩ := session_sim hp8 hseed hps calls (.live k0.counter) hc0 skN log h
  -- the counters are a sublist of the released counters `range' c0 (min …)`
  rw [run_live _ ops k0.counter hc0] at hsub
  have hmem : ∀ c, c ∈ rels.map (·.counter) → k0.counter ≤ c ∧ c < capacity (ps.map (·.lms.h)) := by
    intro c hc
    have := hsub.subset hc
    rw [List.mem_range'_1] at this
    omega
  have hpw : (rels.map (·.counter)).Pairwise (· < ·) := (List.pairwise_lt_range' 1).sublist hsub
  refine ⟨rels, _, rfl, hcalls, hpw, hmem, ?_, ?_, hsk,
    validStateCap_run _ ops (.live k0.counter) hc0⟩
  · exact leaves_nodup_of_lt _ hpw fun c hc => Nat.lt_of_lt_of_le (hmem c hc).2 (capacity_le_leaves _)
  · have h2 := hsub.length_le
    rw [List.length_range', List.length_map] at h2
    rw [List.length_map]
    omega

end Lemmas
