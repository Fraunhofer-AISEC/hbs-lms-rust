/-
C06: verification is total, arbitrary untrusted bytes never crash the verifier. What this says rests on the model
being panic-aware: every slice, index, `ArrayVec` capacity and checked-arithmetic site of the verification path is a
`P` primitive that yields `Fault.panic` exactly where the Rust code would panic, and the one loop that is not
structurally recursive (the Merkle root climb) runs on fuel and faults if the fuel runs out.
-/
import HbsLms.Props.C02

namespace Props.C06

open Impl

/-- C06. On every message, signature and public-key byte string, for every hash function and build configuration, each
of the three verification entry points returns success or error; it never faults. -/
theorem verification_is_total (e : Entry) (H : HashFn) (cfg : Config) (msg sig pk : Bytes) :
    verifyEntry e H cfg msg sig pk = .ok true ∨ verifyEntry e H cfg msg sig pk = .ok false := by
  -- each entry point returns the RFC verdict (C02), so it returns
  obtain ⟨b, hb⟩ : ∃ b, verifyEntry e H cfg msg sig pk = .ok b := by
    cases e
    · exact ⟨_, Props.C02.verifyEntry_fn H cfg msg sig pk⟩
    · exact ⟨_, Props.C02.verifyEntry_viaSignature_exact H cfg msg sig pk⟩
    · exact ⟨_, Props.C02.verifyEntry_viaVerifierSignature H cfg msg sig pk⟩
  cases b
  · exact Or.inr hb
  · exact Or.inl hb

/-- in particular `hss_verify` itself -/
theorem hss_verify_is_total (H : HashFn) (cfg : Config) (msg sig pk : Bytes) :
    ∃ b, hssVerify H cfg msg sig pk = .ok b := ⟨_, Props.C02.verify_iff_rfc H cfg msg sig pk⟩

/-- Signatures shorter than their level-count field are rejected (not a fault). -/
theorem short_signature_rejected (H : HashFn) (cfg : Config) (msg sig pk : Bytes) (h : sig.length < 4) :
    hssVerify H cfg msg sig pk = .ok false :=
  Props.C02.rejected_of fun hv => Nat.not_le.mpr h (Lemmas.Refine.hssValid_inv hv).sigLen

/-- An absurd level count (more signed public keys than the build supports) is rejected before anything is parsed. -/
theorem absurd_level_count_rejected (H : HashFn) (cfg : Config) (msg sig pk : Bytes)
    (h : 4 ≤ sig.length) (hl : Bytes.toNat (Bytes.slice sig 0 4) > cfg.maxLevels - 1) :
    hssVerify H cfg msg sig pk = .ok false := by
  rw [← Lemmas.Refine.u32_eq (by omega)] at hl
  exact Props.C02.too_many_levels_rejected H cfg msg sig pk hl

/-- A public key shorter than its fixed header is rejected (not a fault). -/
theorem short_public_key_rejected (H : HashFn) (cfg : Config) (msg sig pk : Bytes) (h : pk.length < 4) :
    hssVerify H cfg msg sig pk = .ok false :=
  Props.C02.pk_length_rejected H cfg msg sig pk (by omega)

example (H : HashFn) (cfg : Config) : hssVerify H cfg [] [] [] = .ok false :=
  short_signature_rejected H cfg [] [] [] (by simp)

end Props.C06

#print axioms Props.C06.verification_is_total
#print axioms Props.C06.hss_verify_is_total
#print axioms Props.C06.short_signature_rejected
#print axioms Props.C06.absurd_level_count_rejected
#print axioms Props.C06.short_public_key_rejected
