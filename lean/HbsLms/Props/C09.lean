/-
C09 - key generation and signing are pure functions of their inputs.
-/
import HbsLms.Lemmas.PrivKey
import HbsLms.Generated.Decls

namespace Props.C09

open Impl

/-- Outside `cfg(test)` and outside the `fast_verify` feature the library contains no `static`, no interior mutability
(`Cell`, `RefCell`, atomics, locks), no random number generator, no clock, no environment or file access and no
`unsafe`. The statement itself only says that a filter of the generated list `Generated.ambientSites` is empty; that
this list is the inventory of the current sources rests on the extractor (`tools/extract.py`). -/
theorem no_ambient_state_outside_fast_verify :
    Generated.ambientSites.filter (fun s => !s.fastVerifyOnly) = [] := by decide +kernel

/-- a call of the interface with its explicit arguments; the callback of `sign` is its constant answer `accept` -/
inductive Op where
  | keygen (H : HashFn) (cfg : Config) (ps : List HssParam) (seed : Bytes) (aux : Option Bytes)
  | sign (H : HashFn) (cfg : Config) (msg sk : Bytes) (accept : Bool) (aux : Option Bytes)
  | trySign (H : HashFn) (cfg : Config) (msg sk : Bytes) (aux : Option Bytes)
  | verify (H : HashFn) (cfg : Config) (msg sig pk : Bytes)

inductive Out where
  | keygen (r : P KeygenOutcome)
  | sign (r : P SignOutcome)
  | trySign (r : P (Option (SignOutcome × Bytes)))
  | verify (r : P Bool)

/-- what an operation returns: a function of its explicit arguments only -/
def eval : Op → Out
  | .keygen H cfg ps seed aux => .keygen (hssKeygen H cfg ps seed aux)
  | .sign H cfg msg sk accept aux => .sign (hssSign H cfg msg sk (fun _ => accept) aux)
  | .trySign H cfg msg sk aux => .trySign (trySign H cfg msg sk aux)
  | .verify H cfg msg sig pk => .verify (hssVerify H cfg msg sig pk)

/-- the world is the history of operations and their outputs -/
abbrev World := List (Op × Out)

def step (w : World) (op : Op) : World × Out := (w ++ [(op, eval op)], eval op)

def runOps (w : World) (ops : List Op) : World := ops.foldl (fun w op => (step w op).1) w

/-- For every history of operations on arbitrarily many keys (any interleaving of key generations, signatures
and verifications before it), the output of an operation is the same function of its own arguments. -/
theorem output_independent_of_history (w : World) (ops : List Op) (op : Op) :
    (step (runOps w ops) op).2 = (step w op).2 := rfl

/-- The in-memory signing key and the byte-level function agree: `try_sign` on key bytes `sk` releases exactly what
`sign` with an accepting callback releases, and the key it keeps is exactly the key the callback would have been
handed - so a key reloaded from storage continues like the one that stayed in memory. -/
theorem try_sign_is_sign (H : HashFn) (cfg : Config) (msg sk : Bytes) (aux : Option Bytes) (o : SignOutcome)
    (hcap : sk.length ≤ Config.maxPrivKeyLen)
    (ho : hssSign H cfg msg sk (fun _ => true) aux = .ok o)
    (hlen : ∀ k', o.trace = [k'] → k'.length = sk.length) :
    trySign H cfg msg sk aux = .ok (some (o, match o.trace with | [k'] => k' | _ => sk)) := by
  rw [Lemmas.trySign_eq, if_neg (Nat.not_lt.mpr hcap), ho]
  rfl

end Props.C09

#print axioms Props.C09.no_ambient_state_outside_fast_verify
#print axioms Props.C09.output_independent_of_history
#print axioms Props.C09.try_sign_is_sign
