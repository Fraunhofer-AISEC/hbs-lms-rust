/-
Positions of one-time keys in the HSS hierarchy (C03). The position of level `j` for counter `c` is the path of leaves
from the top tree down to the tree that is used at level `j`: the first `j` mixed-radix digits of `c`. On the closed
form of the expanded key (`Lemmas.Layout.topLevel` / `lowerLevels`), the tree used at a level, and hence the content
signed by the level above it, depends on the level's position only.
-/
import HbsLms.Lemmas.Layout
import HbsLms.Spec.HashSigs

namespace Lemmas.Positions

open Impl Spec Lemmas.Complete Lemmas.Layout

def heights (p0 : HssParam) (rest : List HssParam) : List Nat := (p0 :: rest).map (·.lms.h)

theorem heights_length (p0 : HssParam) (rest : List HssParam) : (heights p0 rest).length = rest.length + 1 := by
  rw [heights, List.length_map, List.length_cons]

theorem heights_getD (p0 : HssParam) (rest : List HssParam) {j : Nat} (hj : j < (p0 :: rest).length) :
    (heights p0 rest).getD j 0 = (p0 :: rest)[j].lms.h := by
  rw [heights, List.getD_eq_getElem?_getD, List.getElem?_map, List.getElem?_eq_getElem hj]
  rfl

def pos (hs : List Nat) (c j : Nat) : List Nat := (mixedRadix hs c).take j

def leafAt (hs : List Nat) (c j : Nat) : Nat := (mixedRadix hs c).getD j 0

theorem pos_succ_eq (hs : List Nat) (c j : Nat) (hj : j < hs.length) :
    pos hs c (j + 1) = pos hs c j ++ [leafAt hs c j] := by
  have hl : j < (mixedRadix hs c).length := by rw [mixedRadix_length]; exact hj
  simp only [pos, leafAt, List.take_add_one, List.getD_eq_getElem?_getD, List.getElem?_eq_getElem hl,
    Option.toList_some, Option.getD_some]

theorem pos_succ_eq_iff (hs : List Nat) (c c' j : Nat) (hj : j < hs.length) :
    pos hs c (j + 1) = pos hs c' (j + 1) ↔ pos hs c j = pos hs c' j ∧ leafAt hs c j = leafAt hs c' j := by
  rw [pos_succ_eq hs c j hj, pos_succ_eq hs c' j hj]
  have hlen : (pos hs c j).length = (pos hs c' j).length := by
    simp [pos, mixedRadix_length]
  refine ⟨fun h => ?_, fun ⟨hp, hq⟩ => by rw [hp, hq]⟩
  have := List.append_inj h hlen
  exact ⟨this.1, by simpa using this.2⟩

theorem pos_succ_inv (hs : List Nat) (c c' j : Nat) (hj : j < hs.length)
    (h : pos hs c (j + 1) = pos hs c' (j + 1)) : pos hs c j = pos hs c' j ∧ leafAt hs c j = leafAt hs c' j :=
  (pos_succ_eq_iff hs c c' j hj).1 h

theorem pos_zero (hs : List Nat) (c : Nat) : pos hs c 0 = [] := rfl

theorem pos_mono (hs : List Nat) (c c' i j : Nat) (hij : i ≤ j) (h : pos hs c j = pos hs c' j) :
    pos hs c i = pos hs c' i := by
  have := congrArg (List.take i) h
  simpa [pos, List.take_take, Nat.min_eq_left hij] using this

theorem pos_length (hs : List Nat) (c : Nat) : pos hs c hs.length = mixedRadix hs c := by
  unfold pos
  exact List.take_of_length_le (by rw [mixedRadix_length]; exact Nat.le_refl _)

theorem bottom_position_determines_counter (hs : List Nat) (c c' j : Nat) (hj : j + 1 = hs.length)
    (hc : c < 2 ^ hs.sum) (hc' : c' < 2 ^ hs.sum) (hp : pos hs c j = pos hs c' j)
    (hq : leafAt hs c j = leafAt hs c' j) : c = c' := by
  have h := (pos_succ_eq_iff hs c c' j (by omega)).2 ⟨hp, hq⟩
  rw [hj, pos_length, pos_length] at h
  exact mixedRadix_injective hs c c' hc hc' h

def levels (H : HashFn) (seed : Bytes) (p0 : HssParam) (rest : List HssParam) (c : Nat) : List Level :=
  topLevel H seed p0 rest c :: lowerLevels H seed p0 rest c

/-- level `j` of the key; beyond the last level it reads the top level, whose key does not depend on the counter, so
that `levelAt_key_of_pos` needs no bound on `j` -/
def levelAt (H : HashFn) (seed : Bytes) (p0 : HssParam) (rest : List HssParam) (c j : Nat) : Level :=
  (levels H seed p0 rest c).getD j (topLevel H seed p0 rest c)

def idAt (H : HashFn) (seed : Bytes) (p0 : HssParam) (rest : List HssParam) (c j : Nat) : Bytes :=
  (levelAt H seed p0 rest c j).key.I

theorem levelAt_zero (H : HashFn) (seed : Bytes) (p0 : HssParam) (rest : List HssParam) (c : Nat) :
    levelAt H seed p0 rest c 0 = topLevel H seed p0 rest c := rfl

theorem levelAt_succ (H : HashFn) (seed : Bytes) (p0 : HssParam) (rest : List HssParam) (c j : Nat)
    (hj : j < rest.length) :
    levelAt H seed p0 rest c (j + 1) =
      childLevel H (levelAt H seed p0 rest c j) rest[j] (leafAt (heights p0 rest) c (j + 1)) := by
  have := childrenOf_getD_succ H (leafVector (p0 :: rest) c) (topLevel H seed p0 rest c) rest 1
    (topLevel H seed p0 rest c) j hj
  rw [Nat.add_comm 1 j] at this
  exact this

theorem levels_getElem? (H : HashFn) (seed : Bytes) (p0 : HssParam) (rest : List HssParam) (c j : Nat)
    (hj : j < (p0 :: rest).length) : (levels H seed p0 rest c)[j]? = some (levelAt H seed p0 rest c j) := by
  have hL : j < (levels H seed p0 rest c).length := by rwa [levels, List.length_cons, lowerLevels_length]
  rw [levelAt, ← List.getElem_eq_getD (h := hL)]
  exact List.getElem?_eq_getElem hL

theorem levelAt_mem (H : HashFn) (seed : Bytes) (p0 : HssParam) (rest : List HssParam) (c j : Nat)
    (hj : j < (p0 :: rest).length) : levelAt H seed p0 rest c j ∈ levels H seed p0 rest c :=
  List.mem_of_getElem? (levels_getElem? H seed p0 rest c j hj)

theorem levelAt_q (H : HashFn) (seed : Bytes) (p0 : HssParam) (rest : List HssParam) (c j : Nat)
    (hj : j < (p0 :: rest).length) :
    (levelAt H seed p0 rest c j).q = leafAt (heights p0 rest) c j ∧
    (levelAt H seed p0 rest c j).key.ots = (p0 :: rest)[j].ots ∧
    (levelAt H seed p0 rest c j).key.lms = (p0 :: rest)[j].lms := by
  cases j with
  | zero => exact ⟨rfl, rfl, rfl⟩
  | succ j =>
    rw [levelAt_succ H seed p0 rest c j (Nat.lt_of_succ_lt_succ hj)]
    exact ⟨rfl, rfl, rfl⟩

/-- every level's current leaf lies inside its tree: it is a mixed-radix digit of the counter -/
theorem levels_q_lt (H : HashFn) (seed : Bytes) (p0 : HssParam) (rest : List HssParam) (c : Nat) :
    ∀ l ∈ levels H seed p0 rest c, l.q < 2 ^ l.key.lms.h := by
  intro l hl
  obtain ⟨j, hj, rfl⟩ := List.getElem_of_mem hl
  have hjL : j < (p0 :: rest).length := by rwa [levels, List.length_cons, lowerLevels_length] at hj
  rw [Option.some.inj ((List.getElem?_eq_getElem hj).symm.trans (levels_getElem? H seed p0 rest c j hjL))]
  obtain ⟨hq, -, hh⟩ := levelAt_q H seed p0 rest c j hjL
  have := mixedRadix_lt (heights p0 rest) c j (by rw [heights_length]; exact hjL)
  rw [heights_getD p0 rest hjL] at this
  rw [hq, hh]
  exact this

/-- By induction on the level: the tree of level `j+1` is derived from the tree and the leaf of level `j`, and both
are determined by the position of level `j+1`. -/
theorem levelAt_key_of_pos (H : HashFn) (seed : Bytes) (p0 : HssParam) (rest : List HssParam) (c c' j : Nat)
    (h : pos (heights p0 rest) c j = pos (heights p0 rest) c' j) :
    (levelAt H seed p0 rest c j).key = (levelAt H seed p0 rest c' j).key := by
  by_cases hj : j < (p0 :: rest).length
  · induction j with
    | zero => rfl
    | succ j ih =>
      have hjr : j < rest.length := Nat.lt_of_succ_lt_succ hj
      obtain ⟨hp, hq⟩ := pos_succ_inv _ c c' j (by rw [heights_length]; exact Nat.lt_succ_of_lt hjr) h
      rw [levelAt_succ H seed p0 rest c j hjr, levelAt_succ H seed p0 rest c' j hjr]
      simp only [childLevel, ih hp (by omega), (levelAt_q H seed p0 rest c j (by omega)).1,
        (levelAt_q H seed p0 rest c' j (by omega)).1, hq]
  · have hn : ∀ c, (levels H seed p0 rest c)[j]? = none := fun c =>
      List.getElem?_eq_none (by rw [levels, List.length_cons, lowerLevels_length]; exact Nat.le_of_not_lt hj)
    simp only [levelAt, List.getD_eq_getElem?_getD, hn]
    rfl

theorem idAt_of_pos (H : HashFn) (seed : Bytes) (p0 : HssParam) (rest : List HssParam) (c c' j : Nat)
    (h : pos (heights p0 rest) c j = pos (heights p0 rest) c' j) :
    idAt H seed p0 rest c j = idAt H seed p0 rest c' j := by
  unfold idAt; rw [levelAt_key_of_pos H seed p0 rest c c' j h]

/-- what level `j` signs: the public key of the level below, the message at the bottom level -/
def signedContent (H : HashFn) (seed : Bytes) (p0 : HssParam) (rest : List HssParam) (c : Nat) (msg : Bytes)
    (j : Nat) : Bytes :=
  if j < rest.length then pkBytes H (levelAt H seed p0 rest c (j + 1)).key else msg

/-- the randomizer of level `j`'s signature: `linkC` above the bottom level, `msgC` at it -/
def randomizerAt (H : HashFn) (seed : Bytes) (p0 : HssParam) (rest : List HssParam) (c j : Nat) : Bytes :=
  if j < rest.length then linkC H (levelAt H seed p0 rest c j) else msgC H (levelAt H seed p0 rest c j)

/-- the LMS signature of level `j` inside `hssSigBytes` (`Props.C03Ids.released_bytes_by_levels`) -/
def levelSig (H : HashFn) (seed : Bytes) (p0 : HssParam) (rest : List HssParam) (c : Nat) (msg : Bytes)
    (j : Nat) : Bytes :=
  lmsSigBytes H (levelAt H seed p0 rest c j).key (levelAt H seed p0 rest c j).q
    (signedContent H seed p0 rest c msg j) (randomizerAt H seed p0 rest c j)

theorem signedContent_of_pos_succ (H : HashFn) (seed : Bytes) (p0 : HssParam) (rest : List HssParam) (c c' : Nat)
    (msg msg' : Bytes) (j : Nat) (hj : j < rest.length)
    (h : pos (heights p0 rest) c (j + 1) = pos (heights p0 rest) c' (j + 1)) :
    signedContent H seed p0 rest c msg j = signedContent H seed p0 rest c' msg' j := by
  simp only [signedContent, hj, if_true]
  rw [levelAt_key_of_pos H seed p0 rest c c' (j + 1) h]

theorem signedContent_of_otk_position (H : HashFn) (seed : Bytes) (p0 : HssParam) (rest : List HssParam) (c c' : Nat)
    (msg msg' : Bytes) (j : Nat) (hj : j < rest.length)
    (hp : pos (heights p0 rest) c j = pos (heights p0 rest) c' j)
    (hq : leafAt (heights p0 rest) c j = leafAt (heights p0 rest) c' j) :
    signedContent H seed p0 rest c msg j = signedContent H seed p0 rest c' msg' j :=
  signedContent_of_pos_succ H seed p0 rest c c' msg msg' j hj
    ((pos_succ_eq_iff _ c c' j (by rw [heights_length]; exact Nat.lt_succ_of_lt hj)).2 ⟨hp, hq⟩)

theorem bottomLevel_eq_levelAt (H : HashFn) (seed : Bytes) (p0 : HssParam) (rest : List HssParam) (c : Nat) :
    bottomLevel H seed p0 rest c = levelAt H seed p0 rest c rest.length := by
  have h := getLast?_cons_eq_lastLevel (lowerLevels H seed p0 rest c) (topLevel H seed p0 rest c)
  rw [List.getLast?_eq_getElem?, List.length_cons, Nat.add_sub_cancel, lowerLevels_length] at h
  rw [levelAt, levels, List.getD_eq_getElem?_getD, h]
  rfl

/-- the child tree below leaf `q` of the tree `t = (SEED, I)` -/
def childTree (H : HashFn) (t : Bytes × Bytes) (q : Nat) : Bytes × Bytes :=
  (Spec.HashSigs.childSeed H t.1 t.2 q, Spec.HashSigs.childI H t.1 t.2 q)

def treeAt (H : HashFn) (seed : Bytes) (path : List Nat) : Bytes × Bytes :=
  path.foldl (childTree H) (Spec.HashSigs.topSeed H seed)

end Lemmas.Positions
