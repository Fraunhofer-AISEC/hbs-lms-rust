/-
`Impl.coef`, `Impl.append_checksum_to` and `Impl.digits` compute the digit vector of `Spec.AppendixB`: first for
variables `n`, `w`, `p` with the numeric side conditions as hypotheses (`Props/C12.lean` supplies them for Appendix B),
then on a row of the parameter tables, where they hold: every `coef` index is in range and the `u16` checksum does not
overflow.
-/
import HbsLms.Impl.Lmots
import HbsLms.Lemmas.Monad
import HbsLms.Lemmas.Tables
import HbsLms.Lemmas.Digits

namespace Lemmas

open Impl Spec.AppendixB

/-- the value `coef` returns when its index is in range -/
def coefVal (bs : Bytes) (i w : Nat) : Nat :=
  ((bs.getD (coefIndex i w) 0).toNat >>> coefShift i w) &&& coefMask w

/-- the RFC digit vector with the row's own `p` and `ls` -/
def digitVec (n : Nat) (p : LmotsParam) (Q : Bytes) : List Nat :=
  (List.range p.p).map fun i => rfcCoef (Q ++ Bytes.u16be (cksm n p.w p.ls Q)) i p.w

theorem digitVec_eq_digitsSpec {n : Nat} {p : LmotsParam} (hp : p.p = pRfc n p.w) (Q : Bytes) :
    digitVec n p Q = digitsSpec n p.w p.ls Q := by
  rw [digitVec, hp]; rfl

end Lemmas

namespace Lemmas.Digits

open Spec.AppendixB

theorem coefMask_eq (w : Nat) : Impl.coefMask w = 2 ^ w - 1 := by
  simp [Impl.coefMask, Nat.shiftLeft_eq]

/-- Rust's `!i & (8/w - 1)` on `u16`: the mask `8/w - 1 ≤ 7` lets only the low three bits through, and `i % (8/w)`
depends on them alone -/
theorem coefShift_eq {w i : Nat} (hw : w ∈ [1, 2, 4, 8]) (hi : i < 65536) :
    Impl.coefShift i w = 8 - (w * (i % (8 / w)) + w) := by
  have hm : 8 / w - 1 < 2 ^ 3 := by have := Nat.div_le_self 8 w; omega
  have h := Nat.and_mod_two_pow (a := 65535 - i) (b := 8 / w - 1) (n := 3)
  rw [Nat.mod_eq_of_lt (Nat.lt_of_le_of_lt Nat.and_le_right hm), Nat.mod_eq_of_lt hm] at h
  have h8 : (65535 - i) % 2 ^ 3 = 7 - i % 8 := by omega
  have hr : i % 8 % (8 / w) = i % (8 / w) :=
    Nat.mod_mod_of_dvd i ⟨w, by rw [Nat.mul_comm]; exact (w_mul_div hw).2.symm⟩
  rw [Impl.coefShift, h, h8, ← hr]
  -- on the low three bits `r` of `i`, `!i` has the bits `7 - r`
  exact (by decide : ∀ w ∈ [1, 2, 4, 8], ∀ r, r < 8 → w * ((7 - r) &&& (8 / w - 1)) = 8 - (w * (r % (8 / w)) + w))
    w hw _ (Nat.mod_lt _ (by decide))

theorem coefVal_eq_rfcCoef {w i : Nat} (hw : w ∈ [1, 2, 4, 8]) (hi : i < 65536) (bs : Bytes) :
    coefVal bs i w = rfcCoef bs i w := by
  unfold coefVal rfcCoef Impl.coefIndex
  rw [coefShift_eq hw hi, coefMask_eq, Nat.and_comm]

theorem digit_getElem {bs : Bytes} {i w : Nat} (hw : w ∈ [1, 2, 4, 8]) (hi : i < 65536)
    (hidx : Impl.coefIndex i w < bs.length) :
    (bs[Impl.coefIndex i w].toNat >>> Impl.coefShift i w) &&& Impl.coefMask w = rfcCoef bs i w := by
  rw [← coefVal_eq_rfcCoef hw hi, coefVal, List.getD_eq_getElem?_getD, List.getElem?_eq_getElem hidx]
  rfl

theorem coef_eq_rfcCoef {bs : Bytes} {i w : Nat} (hw : w ∈ [1, 2, 4, 8]) (hi : i < 65536)
    (hidx : i * w / 8 < bs.length) : Impl.coef bs i w = .ok (rfcCoef bs i w) := by
  unfold Impl.coef
  rw [P.idx_of_lt (i := Impl.coefIndex i w) hidx]
  exact congrArg Except.ok (digit_getElem hw hi hidx)

/-- outside the byte string the model's `coef` faults (the Rust index panic) -/
theorem coef_fault {bs : Bytes} {i w : Nat} (hidx : bs.length ≤ i * w / 8) :
    Impl.coef bs i w = .error (.panic "util/coef.rs:coef byte_string[index]") := by
  unfold Impl.coef P.idx Impl.coefIndex
  rw [List.getElem?_eq_none hidx]
  rfl

theorem checksumSum_eq {n : Nat} (prm : LmotsParam) (Q : Bytes) (hw : prm.w ∈ [1, 2, 4, 8])
    (hQ : Q.length = n) (hsum : u n prm.w * (2 ^ prm.w - 1) < 65536) :
    Impl.checksumSum n prm Q = .ok (cksmSum n prm.w Q) := by
  have hw0 := (w_mul_div hw).1
  -- every digit index fits `coef`'s `u16`: `2 ^ w - 1 ≥ 1`, so the number of digits is at most the bound on their sum
  have hu : u n prm.w ≤ 65536 := by
    have h2 : 2 ^ 1 ≤ 2 ^ prm.w := Nat.pow_le_pow_right (by decide) hw0
    exact Nat.le_of_lt (Nat.lt_of_le_of_lt (Nat.le_mul_of_pos_right _ (by omega)) hsum)
  unfold Impl.checksumSum
  have hmax : n * 8 / prm.w = u n prm.w := by unfold u; rw [Nat.mul_comm]
  simp only [hmax, coefMask_eq]
  have hle := cksmSum_le n prm.w Q
  rw [Lemmas.foldlM_add_sum _ (fun i => 2 ^ prm.w - 1 - rfcCoef Q i prm.w) _ _ fun acc i hi hacc => by
    have hi := List.mem_range.mp hi
    rw [coef_eq_rfcCoef hw (by omega) (hQ ▸ msg_index_lt n prm.w hw0 hi), P.ok_bind, if_neg (by unfold cksmSum at hle; omega)]
    rfl]
  rw [Nat.zero_add]; rfl

/-- `n ≤ 32 = MAX_HASH_SIZE` is what the ArrayVec of capacity `MAX_HASH_SIZE + 2` needs -/
theorem append_checksum_eq_of {n : Nat} (prm : LmotsParam) (Q : Bytes) (hw : prm.w ∈ [1, 2, 4, 8])
    (hQ : Q.length = n) (hn : n ≤ 32) (hsum : u n prm.w * (2 ^ prm.w - 1) < 65536) :
    Impl.append_checksum_to n prm Q = .ok (Q ++ Bytes.u16be (cksm n prm.w prm.ls Q)) := by
  unfold Impl.append_checksum_to Impl.checksum
  rw [checksumSum_eq prm Q hw hQ hsum]
  have hcap : Generated.MAX_HASH_SIZE + 2 = 34 := rfl
  rw [P.extendCap_of_le (l := []) (x := Q) (by rw [hcap]; simp; omega)]
  simp only [P.pure_eq, P.ok_bind, List.nil_append]
  exact P.extendCap_of_le (l := Q) (by rw [hcap, Bytes.u16be_length]; omega)

theorem digits_eq_of {n : Nat} (prm : LmotsParam) (Q : Bytes) (hw : prm.w ∈ [1, 2, 4, 8])
    (hQ : Q.length = n) (hn : n ≤ 32) (hpw : prm.p * prm.w ≤ 8 * n + 16)
    (hsum : u n prm.w * (2 ^ prm.w - 1) < 65536) :
    Impl.digits n prm Q = .ok (digitVec n prm Q) := by
  unfold Impl.digits
  rw [append_checksum_eq_of prm Q hw hQ hn hsum]
  apply P.mapM_eq
  intro i hi
  have hi := List.mem_range.mp hi
  have h1 : i * prm.w + prm.w ≤ prm.p * prm.w := by
    rw [← Nat.succ_mul]; exact Nat.mul_le_mul_right _ hi
  have hw0 := (w_mul_div hw).1
  have h2 : i ≤ i * prm.w := Nat.le_mul_of_pos_right _ hw0
  apply coef_eq_rfcCoef hw (by omega)
  rw [List.length_append, Bytes.u16be_length, hQ]
  omega

end Lemmas.Digits

namespace Lemmas

open Impl Generated Spec.AppendixB

theorem coefIndex_lt {n : Nat} {p : LmotsParam} (hg : OtsRowGood n p = true) {i : Nat} (hi : i < p.p) :
    coefIndex i p.w < n + 2 := by
  have h1 := (ots_good_props hg).digits_le
  have : i * p.w < p.p * p.w := Nat.mul_lt_mul_of_pos_right hi (FastVerify.w_pos hg)
  unfold coefIndex
  omega

/-- every digit index fits the `u16` parameter `i` of `coef` -/
theorem digit_index_u16 {n : Nat} {p : LmotsParam} (hg : OtsRowGood n p = true) {i : Nat} (hi : i < p.p) :
    i < 65536 := by
  have hr := ots_good_props hg
  have h1 := hr.digits_le
  have h4 := hr.n_le
  have hw0 := FastVerify.w_pos hg
  have : i * 1 ≤ i * p.w := Nat.mul_le_mul_left _ hw0
  have : i * p.w < p.p * p.w := Nat.mul_lt_mul_of_pos_right hi hw0
  omega

theorem append_checksum_eq {n : Nat} {p : LmotsParam} (hg : OtsRowGood n p = true) (Q : Bytes) (hl : Q.length = n) :
    append_checksum_to n p Q = .ok (Q ++ Bytes.u16be (cksm n p.w p.ls Q)) :=
  have hr := ots_good_props hg
  Digits.append_checksum_eq_of p Q hr.w_mem hl hr.n_le hr.cksm_lt

theorem digits_eq_digitVec {n : Nat} {p : LmotsParam} (hg : OtsRowGood n p = true) (Q : Bytes) (hl : Q.length = n) :
    digits n p Q = .ok (digitVec n p Q) :=
  have hr := ots_good_props hg
  Digits.digits_eq_of p Q hr.w_mem hl hr.n_le hr.digits_le hr.cksm_lt

end Lemmas
