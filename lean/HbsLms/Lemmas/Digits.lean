/-
Arithmetic of the digit vector of RFC 8554 Appendix B (`Spec.AppendixB`) for variables `n`, `w`, up to what the
checksum is for: the digit vector of one digest never dominates that of another (`not_dominated`). That the library
computes this vector is in `Lemmas/LmotsDigits.lean`.
-/
import HbsLms.Impl.Params
import HbsLms.Spec.AppendixB
import HbsLms.Lemmas.Bytes

namespace Lemmas.Digits

open Spec.AppendixB

theorem w_mul_div {w : Nat} (hw : w ∈ [1, 2, 4, 8]) : 0 < w ∧ w * (8 / w) = 8 := by
  simp only [List.mem_cons, List.mem_nil_iff, or_false] at hw
  rcases hw with rfl | rfl | rfl | rfl <;> exact ⟨by decide, rfl⟩

theorem rfcCoef_le (bs : Bytes) (i w : Nat) : rfcCoef bs i w ≤ 2 ^ w - 1 := Nat.and_le_left

theorem rfcCoef_append_left {Q ck : Bytes} {i w : Nat} (h : i * w / 8 < Q.length) :
    rfcCoef (Q ++ ck) i w = rfcCoef Q i w := by
  unfold rfcCoef
  simp [List.getD_eq_getElem?_getD, List.getElem?_append_left h]

theorem sum_sub_add {α : Type} (l : List α) (f : α → Nat) (M : Nat) (h : ∀ i ∈ l, f i ≤ M) :
    (l.map fun i => M - f i).sum + (l.map f).sum = l.length * M := by
  induction l with
  | nil => simp
  | cons a t ih =>
    have h1 := h a (by simp)
    have h2 := ih (fun i hi => h i (by simp [hi]))
    simp only [List.map_cons, List.sum_cons, List.length_cons, Nat.succ_mul]
    omega

theorem sum_map_le_length_mul {α : Type} (l : List α) (f : α → Nat) (M : Nat) (h : ∀ i ∈ l, f i ≤ M) :
    (l.map f).sum ≤ l.length * M := by
  have := sum_sub_add l f M h
  omega

theorem cksmSum_le (n w : Nat) (Q : Bytes) : cksmSum n w Q ≤ u n w * (2 ^ w - 1) := by
  unfold cksmSum
  have := sum_map_le_length_mul (List.range (u n w)) (fun i => 2 ^ w - 1 - rfcCoef Q i w) (2 ^ w - 1)
    (fun i _ => Nat.sub_le _ _)
  simpa using this

theorem msg_index_lt (n w : Nat) {i : Nat} (hw : 0 < w) (hi : i < u n w) : i * w / 8 < n := by
  unfold u at hi
  have h : (i + 1) * w ≤ 8 * n := (Nat.le_div_iff_mul_le hw).mp hi
  rw [Nat.succ_mul] at h
  omega

theorem sum_range_le (f g : Nat → Nat) (m : Nat) (h : ∀ i, i < m → f i ≤ g i) :
    ((List.range m).map f).sum ≤ ((List.range m).map g).sum ∧
      (((List.range m).map g).sum ≤ ((List.range m).map f).sum → ∀ i, i < m → f i = g i) := by
  induction m with
  | zero => exact ⟨Nat.le_refl _, fun _ i hi => by omega⟩
  | succ m ih =>
    obtain ⟨h1, h2⟩ := ih fun i hi => h i (by omega)
    have hm := h m (by omega)
    simp only [List.range_succ, List.map_append, List.sum_append, List.map_cons, List.map_nil, List.sum_cons, List.sum_nil]
    refine ⟨by omega, fun hge i hi => ?_⟩
    by_cases him : i = m
    · subst him; omega
    · exact h2 (by omega) i (by omega)

theorem ofDigits_range_succ (b : Nat) (g : Nat → Nat) (m : Nat) :
    ofDigits b ((List.range (m + 1)).map g) = ofDigits b ((List.range m).map g) * b + g m := by
  unfold ofDigits
  rw [List.range_succ, List.map_append, List.foldl_append]
  rfl

theorem ofDigits_mono (b : Nat) (g g' : Nat → Nat) (m : Nat) (h : ∀ k, k < m → g k ≤ g' k) :
    ofDigits b ((List.range m).map g) ≤ ofDigits b ((List.range m).map g') := by
  induction m with
  | zero => exact Nat.le_refl _
  | succ m ih =>
    have h1 := Nat.mul_le_mul_right b (ih fun k hk => h k (by omega))
    have h2 := h m (by omega)
    rw [ofDigits_range_succ, ofDigits_range_succ]
    omega

theorem ofDigits_digits {w S v : Nat} {g : Nat → Nat} (hS : S < 2 ^ (w * v))
    (hg : ∀ k, k < v → g k = S / 2 ^ (w * (v - 1 - k)) % 2 ^ w) : ofDigits (2 ^ w) ((List.range v).map g) = S := by
  have key : ∀ m, m ≤ v → ofDigits (2 ^ w) ((List.range m).map g) = S / 2 ^ (w * (v - m)) % 2 ^ (w * m) := by
    intro m
    induction m with
    | zero => intro _; simp [ofDigits, Nat.mod_one]
    | succ m ih =>
      intro hm
      rw [ofDigits_range_succ, ih (by omega), hg m (by omega)]
      have e1 : v - 1 - m = v - (m + 1) := by omega
      have e2 : w * (v - m) = w * (v - (m + 1)) + w := by
        have : v - m = (v - (m + 1)) + 1 := by omega
        rw [this, Nat.mul_succ]
      rw [e1, e2, Nat.pow_add, ← Nat.div_div_eq_div_mul]
      generalize S / 2 ^ (w * (v - (m + 1))) = T
      rw [Nat.mul_succ, Nat.pow_add, Nat.mul_comm (2 ^ (w * m)) (2 ^ w), Nat.mod_mul]
      rw [Nat.mul_comm (2 ^ w)]; omega
  rw [key v (Nat.le_refl _), Nat.sub_self, Nat.mul_zero, Nat.pow_zero, Nat.div_one, Nat.mod_eq_of_lt hS]

theorem eq_of_digits_eq {w v x y : Nat} (hx : x < 2 ^ (w * v)) (hy : y < 2 ^ (w * v))
    (h : ∀ k, k < v → x / 2 ^ (w * (v - 1 - k)) % 2 ^ w = y / 2 ^ (w * (v - 1 - k)) % 2 ^ w) : x = y :=
  (ofDigits_digits hx fun _ _ => rfl).symm.trans (ofDigits_digits hy h)

theorem mul_pred_sub {w d r : Nat} (hr : r < d) : w * (d - 1 - r) + (w * r + w) = w * d := by
  rw [← Nat.mul_succ, ← Nat.mul_add]; congr 1; omega

theorem rfcCoef_eq_digit {w : Nat} (hw : w ∈ [1, 2, 4, 8]) (S : Bytes) (i : Nat) :
    rfcCoef S i w = (S.getD (i / (8 / w)) 0).toNat / 2 ^ (w * (8 / w - 1 - i % (8 / w))) % 2 ^ w := by
  obtain ⟨hw0, hd⟩ := w_mul_div hw
  unfold rfcCoef
  generalize 8 / w = d at hd ⊢
  have hd0 : 0 < d := Nat.pos_of_ne_zero (by rintro rfl; simp at hd)
  have hidx : i * w / 8 = i / d := by rw [← hd, Nat.mul_comm w d, Nat.mul_div_mul_right _ _ hw0]
  have hsh := mul_pred_sub (w := w) (Nat.mod_lt i hd0)
  rw [Nat.and_comm, Nat.and_two_pow_sub_one_eq_mod, Nat.shiftRight_eq_div_pow, hidx]
  congr 3; omega

theorem u_eq {n w : Nat} (hw : w ∈ [1, 2, 4, 8]) : u n w = n * (8 / w) := by
  obtain ⟨hw0, hd⟩ := w_mul_div hw
  unfold u
  rw [← hd, Nat.mul_assoc, Nat.mul_div_cancel_left _ hw0, hd, Nat.mul_comm]

theorem rfcCoef_byte {w : Nat} (hw : w ∈ [1, 2, 4, 8]) (Q : Bytes) {j k : Nat} (hk : k < 8 / w) :
    rfcCoef Q (j * (8 / w) + k) w = (Q.getD j 0).toNat / 2 ^ (w * (8 / w - 1 - k)) % 2 ^ w := by
  rw [rfcCoef_eq_digit hw, Nat.mul_comm j, Nat.mul_add_div (by omega), Nat.mul_add_mod, Nat.div_eq_of_lt hk,
    Nat.mod_eq_of_lt hk, Nat.add_zero]

theorem eq_of_msgDigits_eq {n w : Nat} (hw : w ∈ [1, 2, 4, 8]) {Q Q' : Bytes} (hQ : Q.length = n) (hQ' : Q'.length = n)
    (h : ∀ i, i < u n w → rfcCoef Q i w = rfcCoef Q' i w) : Q = Q' := by
  apply List.ext_getElem (hQ.trans hQ'.symm)
  intro j hj hj'
  have hb : ∀ x : UInt8, x.toNat < 2 ^ (w * (8 / w)) := fun x => by rw [(w_mul_div hw).2]; exact x.toNat_lt
  apply UInt8.toNat_inj.mp
  apply eq_of_digits_eq (hb _) (hb _)
  intro k hk
  have := h (j * (8 / w) + k) (by
    have : (j + 1) * (8 / w) ≤ n * (8 / w) := Nat.mul_le_mul_right _ (hQ ▸ hj)
    rw [Nat.succ_mul] at this; rw [u_eq hw]; omega)
  rw [rfcCoef_byte hw Q hk, rfcCoef_byte hw Q' hk] at this
  simpa [List.getD_eq_getElem?_getD, hj, hj'] using this

theorem digitsSpec_length (n w ls : Nat) (Q : Bytes) : (digitsSpec n w ls Q).length = pRfc n w := by
  simp [digitsSpec]

theorem digitsSpec_getD (n w ls : Nat) (Q : Bytes) {i : Nat} (hi : i < pRfc n w) :
    (digitsSpec n w ls Q).getD i 0 = rfcCoef (Q ++ Bytes.u16be (cksm n w ls Q)) i w := by
  simp [digitsSpec, List.getD_eq_getElem?_getD, hi]

theorem digitsSpec_getD_msg {n w : Nat} (hw : w ∈ [1, 2, 4, 8]) (ls : Nat) {Q : Bytes} (hQ : Q.length = n)
    {i : Nat} (hi : i < u n w) : (digitsSpec n w ls Q).getD i 0 = rfcCoef Q i w := by
  rw [digitsSpec_getD n w ls Q (by unfold pRfc; omega)]
  exact rfcCoef_append_left (hQ ▸ msg_index_lt n w (w_mul_div hw).1 hi)

theorem div_mod_div_mod (x a b s w : Nat) (h : s + w ≤ b) :
    x / 2 ^ a % 2 ^ b / 2 ^ s % 2 ^ w = x / 2 ^ (a + s) % 2 ^ w := by
  have e : b = s + (b - s) := by omega
  rw [e, Nat.pow_add, Nat.mod_mul_right_div_self, Nat.mod_mod_of_dvd _ (Nat.pow_dvd_pow 2 (by omega)),
    Nat.div_div_eq_div_mul, ← Nat.pow_add]

theorem rfcCoef_append_right {w : Nat} (hw : w ∈ [1, 2, 4, 8]) (Q ck : Bytes) (k : Nat) :
    rfcCoef (Q ++ ck) (Q.length * (8 / w) + k) w = rfcCoef ck k w := by
  have hd0 : 0 < 8 / w := Nat.pos_of_ne_zero (by have := (w_mul_div hw).2; intro h; simp [h] at this)
  rw [rfcCoef_eq_digit hw, rfcCoef_eq_digit hw, Nat.mul_comm Q.length, Nat.mul_add_div hd0, Nat.mul_add_mod]
  simp only [List.getD_eq_getElem?_getD]
  rw [List.getElem?_append_right (Nat.le_add_right _ _), Nat.add_sub_cancel_left]

theorem rfcCoef_u16be {w : Nat} (hw : w ∈ [1, 2, 4, 8]) {c k : Nat} (hk : k < 2 * (8 / w)) :
    rfcCoef (Bytes.u16be c) k w = c / 2 ^ (w * (2 * (8 / w) - 1 - k)) % 2 ^ w := by
  obtain ⟨hw0, hd⟩ := w_mul_div hw
  rw [rfcCoef_eq_digit hw]
  generalize 8 / w = d at hd hk ⊢
  have hd0 : 0 < d := by omega
  have hq : k / d = 0 ∨ k / d = 1 := by
    have : k / d < 2 := (Nat.div_lt_iff_lt_mul hd0).mpr hk
    generalize k / d = q at this ⊢; omega
  have hbyte : ((Bytes.u16be c).getD (k / d) 0).toNat = c / 2 ^ (8 * (1 - k / d)) % 2 ^ 8 := by
    rcases hq with h | h <;> simp [h, Bytes.u16be, Bytes.be]
  have h1 := mul_pred_sub (w := w) (Nat.mod_lt k hd0)
  have h2 := mul_pred_sub (w := w) hk
  have hwk : w * k = 8 * (k / d) + w * (k % d) := by
    rw [← hd, Nat.mul_assoc, ← Nat.mul_add, Nat.div_add_mod]
  rw [Nat.mul_left_comm, hd] at h2
  rw [hbyte, div_mod_div_mod _ _ _ _ _ (by omega)]
  congr 3; omega

theorem digitsSpec_getD_ckBytes {n w : Nat} (hw : w ∈ [1, 2, 4, 8]) (ls : Nat) {Q : Bytes} (hQ : Q.length = n)
    {k : Nat} (hk : k < v n w) :
    (digitsSpec n w ls Q).getD (u n w + k) 0 = rfcCoef (Bytes.u16be (cksm n w ls Q)) k w := by
  rw [digitsSpec_getD n w _ Q (by unfold pRfc; omega), u_eq hw, ← hQ, rfcCoef_append_right hw]

/-- the `v` checksum digits fit in the 16-bit field and can hold the largest checksum sum -/
def NumOk (n w : Nat) : Bool := v n w * w ≤ 16 && u n w * (2 ^ w - 1) < 2 ^ (v n w * w)

theorem numOk_all : ∀ n ∈ [16, 24, 32], ∀ w ∈ [1, 2, 4, 8], NumOk n w = true := by decide +kernel

theorem cksm_eq (n w ls : Nat) (Q : Bytes) : cksm n w ls Q = (cksmSum n w Q <<< ls) % 65536 := rfl

theorem cksm_eq_mul {n w : Nat} (hN : NumOk n w = true) (Q : Bytes) :
    cksm n w (lsRfc n w) Q = cksmSum n w Q * 2 ^ (lsRfc n w) ∧ cksmSum n w Q < 2 ^ (v n w * w) := by
  simp only [NumOk, Bool.and_eq_true, decide_eq_true_eq] at hN
  have hS : cksmSum n w Q < 2 ^ (v n w * w) := Nat.lt_of_le_of_lt (cksmSum_le n w Q) hN.2
  refine ⟨?_, hS⟩
  rw [cksm_eq, Nat.shiftLeft_eq]
  apply Nat.mod_eq_of_lt
  have e : (65536 : Nat) = 2 ^ (v n w * w) * 2 ^ (lsRfc n w) := by
    rw [← Nat.pow_add]; unfold lsRfc
    have : v n w * w + (16 - v n w * w) = 16 := by omega
    rw [this]
  rw [e]
  exact Nat.mul_lt_mul_of_lt_of_le hS (Nat.le_refl _) (Nat.pow_pos (by omega))

theorem digitsSpec_getD_cksmSum {n w : Nat} (hw : w ∈ [1, 2, 4, 8]) (hN : NumOk n w = true) {Q : Bytes} (hQ : Q.length = n)
    {k : Nat} (hk : k < v n w) :
    (digitsSpec n w (lsRfc n w) Q).getD (u n w + k) 0 = cksmSum n w Q / 2 ^ (w * (v n w - 1 - k)) % 2 ^ w := by
  subst hQ
  obtain ⟨hc, _⟩ := cksm_eq_mul hN Q
  obtain ⟨hw0, hd⟩ := w_mul_div hw
  simp only [NumOk, Bool.and_eq_true, decide_eq_true_eq] at hN
  have h1 := mul_pred_sub (w := w) hk
  rw [Nat.mul_comm w (v _ w)] at h1
  have hk2 : k < 2 * (8 / w) := by
    apply Nat.lt_of_mul_lt_mul_left (a := w)
    rw [Nat.mul_left_comm, hd]; omega
  have h2 := mul_pred_sub (w := w) hk2
  rw [Nat.mul_left_comm, hd] at h2
  rw [digitsSpec_getD_ckBytes hw _ rfl hk, rfcCoef_u16be hw hk2, hc]
  have e : w * (2 * (8 / w) - 1 - k) = lsRfc Q.length w + w * (v Q.length w - 1 - k) := by
    unfold lsRfc; omega
  rw [e, Nat.pow_add, ← Nat.div_div_eq_div_mul, Nat.mul_div_cancel _ (Nat.pow_pos (by omega))]

theorem digitsSpec_drop (n w ls : Nat) (Q : Bytes) :
    (digitsSpec n w ls Q).drop (u n w) = (List.range (v n w)).map fun k => (digitsSpec n w ls Q).getD (u n w + k) 0 := by
  apply List.ext_getElem?
  intro i
  by_cases h : i < v n w <;> simp [digitsSpec, pRfc, List.getD_eq_getElem?_getD, h]

theorem cksm_digits_value {n w : Nat} (hw : w ∈ [1, 2, 4, 8]) (hN : NumOk n w = true) {Q : Bytes} (hQ : Q.length = n) :
    ofDigits (2 ^ w) ((digitsSpec n w (lsRfc n w) Q).drop (u n w)) = cksmSum n w Q := by
  rw [digitsSpec_drop]
  exact ofDigits_digits (Nat.mul_comm w _ ▸ (cksm_eq_mul hN Q).2) fun _ hk => digitsSpec_getD_cksmSum hw hN hQ hk

theorem rfcCoef_le_replicate_ff {n w i : Nat} (hw : w ∈ [1, 2, 4, 8]) (hi : i < u n w) (Q : Bytes) :
    rfcCoef Q i w ≤ rfcCoef (List.replicate n 0xff) i w := by
  have hd0 : 0 < 8 / w := Nat.pos_of_ne_zero fun h => by have := (w_mul_div hw).2; simp [h] at this
  have hj : i / (8 / w) < n := (Nat.div_lt_iff_lt_mul hd0).mpr (u_eq hw ▸ hi)
  rw [rfcCoef_eq_digit hw (List.replicate n 0xff), List.getD_eq_getElem?_getD, List.getElem?_replicate, if_pos hj]
  exact Nat.le_trans (rfcCoef_le Q i w) (Nat.le_of_eq
    ((by decide : ∀ w ∈ [1, 2, 4, 8], ∀ k, k < 8 → 2 ^ w - 1 = 255 / 2 ^ (w * (8 / w - 1 - k)) % 2 ^ w) w hw _
      (Nat.lt_of_lt_of_le (Nat.mod_lt i hd0) (Nat.div_le_self 8 w))))

theorem dominatedBy_of_parts {n w ls : Nat} (hw : w ∈ [1, 2, 4, 8]) {Q Q' : Bytes} (hQ : Q.length = n) (hQ' : Q'.length = n)
    (hmsg : ∀ i, i < u n w → rfcCoef Q i w ≤ rfcCoef Q' i w)
    (hck : ∀ k, k < v n w → rfcCoef (Bytes.u16be (cksm n w ls Q)) k w ≤ rfcCoef (Bytes.u16be (cksm n w ls Q')) k w) :
    DominatedBy (pRfc n w) (digitsSpec n w ls Q) (digitsSpec n w ls Q') := by
  intro i hi
  by_cases h : i < u n w
  · rw [digitsSpec_getD_msg hw ls hQ h, digitsSpec_getD_msg hw ls hQ' h]; exact hmsg i h
  · obtain ⟨k, rfl⟩ : ∃ k, i = u n w + k := ⟨i - u n w, by omega⟩
    have hk : k < v n w := by unfold pRfc at hi; omega
    rw [digitsSpec_getD_ckBytes hw ls hQ hk, digitsSpec_getD_ckBytes hw ls hQ' hk]; exact hck k hk

theorem not_dominated {n w : Nat} (hw : w ∈ [1, 2, 4, 8]) (hN : NumOk n w = true) {Q Q' : Bytes}
    (hQ : Q.length = n) (hQ' : Q'.length = n) (hne : Q ≠ Q') :
    ¬ DominatedBy (pRfc n w) (digitsSpec n w (lsRfc n w) Q) (digitsSpec n w (lsRfc n w) Q') := by
  intro hdom
  have hmsg : ∀ i, i < u n w → rfcCoef Q i w ≤ rfcCoef Q' i w := by
    intro i hi
    have := hdom i (by unfold pRfc; omega)
    rwa [digitsSpec_getD_msg hw _ hQ hi, digitsSpec_getD_msg hw _ hQ' hi] at this
  have hle : cksmSum n w Q ≤ cksmSum n w Q' := by
    rw [← cksm_digits_value hw hN hQ, ← cksm_digits_value hw hN hQ', digitsSpec_drop, digitsSpec_drop]
    exact ofDigits_mono _ _ _ _ fun k hk => hdom (u n w + k) (by unfold pRfc; omega)
  -- so the two sums are equal, and with them all message digits
  apply hne
  apply eq_of_msgDigits_eq hw hQ hQ'
  intro i hi
  have := (sum_range_le (fun i => 2 ^ w - 1 - rfcCoef Q' i w) (fun i => 2 ^ w - 1 - rfcCoef Q i w) (u n w)
    fun i hi => by have := hmsg i hi; omega).2 hle i hi
  have := rfcCoef_le Q i w
  have := rfcCoef_le Q' i w
  omega

theorem mem_of_hn {n : Nat} (hn : n = 16 ∨ n = 24 ∨ n = 32) : n ∈ [16, 24, 32] := by
  rcases hn with rfl | rfl | rfl <;> simp

theorem rowShapeOk_iff {n : Nat} {prm : LmotsParam} :
    RowShapeOk n prm = true ↔ prm.w ∈ [1, 2, 4, 8] ∧ prm.p = pRfc n prm.w ∧ prm.ls ≤ 8 := by
  simp [RowShapeOk, and_assoc]

theorem rowOk_iff {n : Nat} {prm : LmotsParam} :
    RowOk n prm = true ↔ prm.w ∈ [1, 2, 4, 8] ∧ prm.p = pRfc n prm.w ∧ prm.ls = lsRfc n prm.w := by
  simp [RowOk, and_assoc]

end Lemmas.Digits
