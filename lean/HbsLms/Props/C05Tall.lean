/-
C03, C05 and C13 for every key shape, the tall ones included (`64 ≤ hs.sum`, e.g. three H25 trees with total height 75,
which the library accepts): the statements of Props/C03.lean, C05.lean and C13.lean without `hs.sum ≤ 63`, with
`capacity hs = 2 ^ min hs.sum 64`, the number of leaves capped at the values of the 8-byte counter, in place of the
number of leaves.  Where a statement fails for tall shapes the difference is proved: from total height 65 on the key is
wiped at counter `2^64 - 1` with leaves left over, and `lifetimeOf`, which saturates at `u64::MAX`, reports the
constant `2^64 - 1`; at total height exactly 64 only the fresh key's report is off, by one.
In the names `_all` means every shape and `tall_` the shapes with `64 ≤ hs.sum`; `_le64`, `_sum64` and `_ge65` mean total
height at most 64, exactly 64 and at least 65; `_from` starts from any live counter instead of a fresh key.
-/
import HbsLms.Lemmas.Lifetime
import HbsLms.Lemmas.History

namespace Props.C05Tall

open Impl Spec Lemmas

/-- `capacity hs = 2 ^ min hs.sum 64` (definition in Lemmas/Counter.lean) is the number of leaves capped at the number of
values of the 64-bit counter. -/
theorem capacity_eq_min_leaves_u64 (hs : List Nat) : capacity hs = min (leavesTotal hs) (2 ^ 64) := by
  unfold leavesTotal
  by_cases h : hs.sum ≤ 64
  · rw [Lemmas.capacity_le64 hs h, Nat.min_eq_left (Nat.pow_le_pow_right (by omega) h)]
  · rw [Lemmas.capacity_tall hs (by omega), Nat.min_eq_right (Nat.pow_le_pow_right (by omega) (by omega))]

/-- for the shapes of Props/C03, C05, C13 (total height at most 63) the capacity is the number of leaves -/
theorem capacity_le63 (hs : List Nat) (hsum : hs.sum ≤ 63) : capacity hs = leavesTotal hs :=
  Lemmas.capacity_le63 hs hsum

/-- also for total height exactly 64 -/
theorem capacity_le64 (hs : List Nat) (hsum : hs.sum ≤ 64) : capacity hs = leavesTotal hs :=
  Lemmas.capacity_le64 hs hsum

theorem capacity_le_leaves (hs : List Nat) : capacity hs ≤ leavesTotal hs := Lemmas.capacity_le_leaves hs

/-- from total height 65 on there are strictly more leaves than the key can ever release -/
theorem capacity_lt_leaves (hs : List Nat) (hsum : 65 ≤ hs.sum) : capacity hs < leavesTotal hs := by
  rw [Lemmas.capacity_tall hs (by omega)]
  exact Nat.pow_lt_pow_right (by omega) (by omega)

/-- `capacity hs` is the number of signatures a fresh key can release: no history releases more, and some history
releases that many. -/
theorem capacity_is_max_released (hs : List Nat) :
    (∀ ops, (run hs (.live 0) ops).2.length = min (accepts ops) (capacity hs)) ∧
    (∀ ops, (run hs (.live 0) ops).2.length ≤ capacity hs) ∧
    (∃ ops, (run hs (.live 0) ops).2.length = capacity hs) := by
  have h1 : ∀ ops, (run hs (.live 0) ops).2.length = min (accepts ops) (capacity hs) := by
    intro ops
    rw [Lemmas.run_fresh hs ops]
    simp only [List.length_range]
  refine ⟨h1, fun ops => ?_, ⟨List.replicate (capacity hs) .signAccept, ?_⟩⟩
  · rw [h1]; exact Nat.min_le_right _ _
  · rw [h1, Lemmas.accepts_replicate, Nat.min_self]

/-- C13 for every shape: the successor is `c+1` until the last counter `capacity hs - 1`, the wiped state (`none`) after
it. -/
theorem successor_all (hs : List Nat) (c : Nat) :
    incrementCounter hs c = if c + 1 < capacity hs then some (c + 1) else none :=
  Lemmas.incrementCounter_all hs c

/-- `Props.C13.increment_wipes_exactly_at_last_leaf` for every shape: `RefKey.increment` yields the wiped key exactly
when the last counter below the capacity was used -/
theorem increment_wipes_exactly_at_capacity (k : RefKey) (n : Nat) (hs : List Nat) :
    k.increment n hs
      = if k.counter + 1 < capacity hs then { k with counter := k.counter + 1 } else RefKey.wiped n := by
  unfold RefKey.increment
  rw [successor_all hs k.counter]
  by_cases h : k.counter + 1 < capacity hs
  · rw [if_pos h, if_pos h]
  · rw [if_neg h, if_neg h]

/-- tall shapes: the key is wiped by the signing call made at counter `2^64 - 1` (`u64::MAX`), so the last counter value
is used for a signature -/
theorem tall_increment_wipes_exactly_at_u64_max (k : RefKey) (n : Nat) (hs : List Nat) (hsum : 64 ≤ hs.sum) :
    k.increment n hs
      = if k.counter < 2 ^ 64 - 1 then { k with counter := k.counter + 1 } else RefKey.wiped n := by
  rw [increment_wipes_exactly_at_capacity, capacity_tall hs hsum]
  simp only [Nat.lt_sub_iff_add_lt]

/-- tall shapes: the abstract step at the last counter value releases it and wipes the key -/
theorem tall_last_counter_value_is_released (hs : List Nat) (hsum : 64 ≤ hs.sum) :
    step hs (.live (2 ^ 64 - 1)) .signAccept = (.wiped, some (2 ^ 64 - 1)) := by
  rw [Lemmas.step_accept, capacity_tall hs hsum]
  rfl

/-- `Props.C03.released_counters_are_consecutive` for every shape: a fresh key releases the counters `0, 1, …, k-1` in
order, `k` being the accepted signing operations capped at the capacity, and is wiped once `capacity hs` counters were
released. -/
theorem released_counters_are_consecutive_all (hs : List Nat) (ops : List Op) :
    ∃ k, k = min (accepts ops) (capacity hs) ∧ k ≤ capacity hs ∧
      (run hs (.live 0) ops).2 = List.range k ∧
      (run hs (.live 0) ops).1 = if k < capacity hs then .live k else .wiped := by
  refine ⟨min (accepts ops) (capacity hs), rfl, Nat.min_le_right _ _, ?_, ?_⟩ <;>
    rw [Lemmas.run_fresh hs ops]

/-- the same from any live counter below the capacity (a key that was reloaded mid-life) -/
theorem released_counters_from_all (hs : List Nat) (ops : List Op) (c : Nat) (hc : c < capacity hs) :
    ∃ k, k = min (accepts ops) (capacity hs - c) ∧
      (run hs (.live c) ops).2 = List.range' c k ∧
      (run hs (.live c) ops).1 = if c + k < capacity hs then .live (c + k) else .wiped := by
  refine ⟨min (accepts ops) (capacity hs - c), rfl, ?_, ?_⟩ <;>
    rw [Lemmas.run_live hs ops c hc]

/-- tall shapes, spelled out: released counters `0 … k-1` with `k = min (accepts ops) 2^64`, wiped iff `k = 2^64` -/
theorem tall_released_counters_are_consecutive (hs : List Nat) (hsum : 64 ≤ hs.sum) (ops : List Op) :
    (run hs (.live 0) ops).2 = List.range (min (accepts ops) (2 ^ 64)) ∧
    (run hs (.live 0) ops).1
      = if min (accepts ops) (2 ^ 64) < 2 ^ 64 then .live (min (accepts ops) (2 ^ 64)) else .wiped := by
  rw [Lemmas.run_fresh hs ops, capacity_tall hs hsum]
  exact ⟨rfl, rfl⟩

/-- the `n`-th released signature uses the mixed-radix digits of `n` (every shape) -/
theorem nth_released_uses_mixed_radix_leaves_all (hs : List Nat) (ops : List Op) (n : Nat)
    (hn : n < (run hs (.live 0) ops).2.length) :
    (((run hs (.live 0) ops).2.map (leavesOfCounter hs))[n]?) = some (mixedRadix hs n) := by
  rw [Lemmas.run_fresh hs ops] at hn ⊢
  simp only [List.length_range] at hn
  simp [hn, Lemmas.leavesOfCounter_eq]

/-- from any live counter below the capacity: the leaf vectors of the released signatures are pairwise different -/
theorem no_leaf_vector_released_twice_from (hs : List Nat) (ops : List Op) (c : Nat) (hc : c < capacity hs) :
    ((run hs (.live c) ops).2.map (leavesOfCounter hs)).Nodup := by
  rw [Lemmas.run_live hs ops c hc]
  have hcap := Lemmas.capacity_le_leaves hs
  refine Lemmas.leaves_nodup_of_lt hs (List.pairwise_lt_range' 1) fun a ha => ?_
  rw [List.mem_range'_1] at ha
  omega

/-- C03 for every shape: over any history of a fresh key the leaf vectors of the released signatures are pairwise
different, so no one-time key position is used twice. -/
theorem no_leaf_vector_released_twice_all (hs : List Nat) (ops : List Op) :
    ((run hs (.live 0) ops).2.map (leavesOfCounter hs)).Nodup :=
  no_leaf_vector_released_twice_from hs ops 0 (Lemmas.capacity_pos hs)

/-- tall shapes (more leaves than counter values): the released counters are distinct values below `2^64 ≤ 2^hs.sum`, and
the mixed-radix digit vector (`Impl.leavesOfCounter`, the model of `CompressedUsedLeafsIndexes::to`) is injective
below `2^hs.sum`. -/
theorem tall_no_leaf_vector_released_twice (hs : List Nat) (_hsum : 64 ≤ hs.sum) (ops : List Op) :
    ((run hs (.live 0) ops).2.map (leavesOfCounter hs)).Nodup :=
  no_leaf_vector_released_twice_all hs ops

/-- `no_leaf_vector_released_twice_all` for two indices into the list of released signatures -/
theorem distinct_releases_use_distinct_leaves_all (hs : List Nat) (ops : List Op) (i j : Nat)
    (hij : i < j) (hj : j < (run hs (.live 0) ops).2.length) :
    leavesOfCounter hs ((run hs (.live 0) ops).2.getD i 0) ≠ leavesOfCounter hs ((run hs (.live 0) ops).2.getD j 0) := by
  have h := List.pairwise_iff_getElem.1 (no_leaf_vector_released_twice_all hs ops) i j
    (by rw [List.length_map]; omega) (by rwa [List.length_map]) hij
  rwa [List.getElem_map, List.getElem_map, List.getElem_eq_getD 0, List.getElem_eq_getD 0] at h

/-- For every shape rejections, failures and queries are invisible: the outcome of a history depends only on how many
signing operations were accepted. -/
theorem outcome_depends_only_on_accepted_all (hs : List Nat) (ops ops' : List Op)
    (h : accepts ops = accepts ops') : run hs (.live 0) ops = run hs (.live 0) ops' := by
  rw [Lemmas.run_fresh hs ops, Lemmas.run_fresh hs ops', h]

theorem released_count_le_capacity (hs : List Nat) (ops : List Op) :
    (run hs (.live 0) ops).2.length ≤ capacity hs :=
  (capacity_is_max_released hs).2.1 ops

/-- No history releases more signatures than the key has leaves, whatever the shape; the sharp bound is the capacity. -/
theorem released_count_le_leaves_all (hs : List Nat) (ops : List Op) :
    (run hs (.live 0) ops).2.length ≤ leavesTotal hs :=
  Nat.le_trans (released_count_le_capacity hs ops) (capacity_le_leaves hs)

/-- `Props.C03.all_leaves_used_iff_wiped` for every shape: the key ended up wiped exactly when `capacity hs` signatures
were released. -/
theorem capacity_used_iff_wiped (hs : List Nat) (ops : List Op) :
    (run hs (.live 0) ops).2.length = capacity hs ↔ (run hs (.live 0) ops).1 = .wiped := by
  rw [Lemmas.run_fresh hs ops, List.length_range]
  by_cases h : min (accepts ops) (capacity hs) < capacity hs
  · rw [if_pos h]
    exact ⟨fun h' => absurd h' (Nat.ne_of_lt h), fun h' => nomatch h'⟩
  · rw [if_neg h]
    exact ⟨fun _ => rfl, fun _ => Nat.le_antisymm (Nat.min_le_right _ _) (Nat.le_of_not_lt h)⟩

/-- `Props.C03.all_leaves_used_iff_wiped` as stated holds up to total height 64 -/
theorem all_leaves_used_iff_wiped_le64 (hs : List Nat) (hsum : hs.sum ≤ 64) (ops : List Op) :
    (run hs (.live 0) ops).2.length = leavesTotal hs ↔ (run hs (.live 0) ops).1 = .wiped := by
  rw [← capacity_le64 hs hsum]
  exact capacity_used_iff_wiped hs ops

/-- from total height 65 on no history ever uses all leaves ... -/
theorem tall_never_uses_all_leaves (hs : List Nat) (hsum : 65 ≤ hs.sum) (ops : List Op) :
    (run hs (.live 0) ops).2.length < leavesTotal hs :=
  Nat.lt_of_le_of_lt (released_count_le_capacity hs ops) (capacity_lt_leaves hs hsum)

/-- ... although the key does get wiped: `all_leaves_used_iff_wiped` is false for these shapes -/
theorem tall_wiped_without_all_leaves_used (hs : List Nat) (hsum : 65 ≤ hs.sum) :
    ∃ ops, (run hs (.live 0) ops).1 = .wiped ∧ (run hs (.live 0) ops).2.length = 2 ^ 64 ∧
      (run hs (.live 0) ops).2.length < leavesTotal hs := by
  obtain ⟨ops, hops⟩ := (capacity_is_max_released hs).2.2
  refine ⟨ops, (capacity_used_iff_wiped hs ops).mp hops, ?_, tall_never_uses_all_leaves hs hsum ops⟩
  rw [hops, capacity_tall hs (by omega)]

/-- For every shape and every leaf vector with one entry per level the loop of `get_lifetime` computes the closed form
`Lemmas.life` saturated at `u64::MAX`. -/
theorem lifetime_closed_form_all (hs qs : List Nat) (hlen : qs.length = hs.length) :
    lifetimeOf hs qs = min (Lemmas.life hs qs) (2 ^ 64 - 1) :=
  Lemmas.lifetimeOf_eq_sat_life hs qs hlen

/-- For every shape the lifetime reported for the key with counter `c` is the number of leaves minus `c`, saturated at
`2^64 - 1`. -/
theorem lifetime_eq_all (hs : List Nat) (c : Nat) (hne : hs ≠ []) (hc : c < 2 ^ hs.sum) :
    lifetimeOf hs (mixedRadix hs c) = min (2 ^ hs.sum - c) (2 ^ 64 - 1) :=
  Lemmas.lifetime_all hs c hne hc

/-- the same on the leaf vector the library itself derives from the counter -/
theorem lifetime_of_counter_all (hs : List Nat) (c : Nat) (hne : hs ≠ []) (hc : c < leavesTotal hs) :
    lifetimeOf hs (leavesOfCounter hs c) = min (leavesTotal hs - c) (2 ^ 64 - 1) := by
  rw [Lemmas.leavesOfCounter_eq]
  exact Lemmas.lifetime_all hs c hne hc

/-- `Props.C05.lifetime_of_counter` as stated extends to total height 64 for every counter but 0 -/
theorem lifetime_of_counter_sum64 (hs : List Nat) (c : Nat) (hne : hs ≠ []) (hsum : hs.sum = 64) (hc : c < 2 ^ 64) :
    lifetimeOf hs (leavesOfCounter hs c) = if c = 0 then 2 ^ 64 - 1 else 2 ^ 64 - c := by
  have hl : leavesTotal hs = 2 ^ 64 := by simp only [leavesTotal, hsum]
  rw [lifetime_of_counter_all hs c hne (hl ▸ hc), hl]
  by_cases h : c = 0
  · rw [if_pos h]; omega
  · rw [if_neg h]; omega

/-- from total height 65 on the reported lifetime is the constant `u64::MAX` for every counter the key can hold -/
theorem lifetime_of_counter_ge65 (hs : List Nat) (c : Nat) (hsum : 65 ≤ hs.sum) (hc : c < 2 ^ 64) :
    lifetimeOf hs (leavesOfCounter hs c) = 2 ^ 64 - 1 := by
  have hl : 2 * 2 ^ 64 ≤ leavesTotal hs := leaves_ge65 hsum
  rw [lifetime_of_counter_all hs c (ne_nil_of_sum_pos (by omega)) (by omega)]
  omega

theorem fresh_key_lifetime_all (hs : List Nat) (hne : hs ≠ []) :
    lifetimeOf hs (leavesOfCounter hs 0) = min (leavesTotal hs) (2 ^ 64 - 1) := by
  rw [lifetime_of_counter_all hs 0 hne (Nat.two_pow_pos _)]
  rfl

/-- a fresh tall key reports `2^64 - 1 = capacity hs - 1`, one less than it can release -/
theorem fresh_key_lifetime_tall (hs : List Nat) (hsum : 64 ≤ hs.sum) :
    lifetimeOf hs (leavesOfCounter hs 0) = 2 ^ 64 - 1 ∧
    lifetimeOf hs (leavesOfCounter hs 0) + 1 = capacity hs := by
  have h64 : (2 : Nat) ^ 64 ≤ leavesTotal hs := Nat.pow_le_pow_right (by decide) hsum
  rw [fresh_key_lifetime_all hs (ne_nil_of_sum_pos (by omega)), capacity_tall hs hsum,
    Nat.min_eq_right (Nat.le_trans (Nat.sub_le _ _) h64)]
  exact ⟨rfl, rfl⟩

/-- Each advance of the counter lowers the reported lifetime by exactly one as long as the report for `c` is not
saturated (`hunsat`). -/
theorem lifetime_decreases_by_one_all (hs : List Nat) (c : Nat) (hne : hs ≠ [])
    (hc : c + 1 < leavesTotal hs) (hunsat : leavesTotal hs - c ≤ 2 ^ 64 - 1) :
    lifetimeOf hs (leavesOfCounter hs (c + 1)) + 1 = lifetimeOf hs (leavesOfCounter hs c) := by
  rw [lifetime_of_counter_all hs (c + 1) hne hc, lifetime_of_counter_all hs c hne (Nat.lt_of_succ_lt hc)]
  omega

/-- in general (every shape, every counter) the report never increases and drops by at most one per advance -/
theorem lifetime_monotone_all (hs : List Nat) (c : Nat) (hne : hs ≠ []) (hc : c + 1 < leavesTotal hs) :
    lifetimeOf hs (leavesOfCounter hs (c + 1)) ≤ lifetimeOf hs (leavesOfCounter hs c) ∧
    lifetimeOf hs (leavesOfCounter hs c) ≤ lifetimeOf hs (leavesOfCounter hs (c + 1)) + 1 := by
  rw [lifetime_of_counter_all hs (c + 1) hne hc, lifetime_of_counter_all hs c hne (Nat.lt_of_succ_lt hc)]
  omega

/-- total height exactly 64: decreases by one from counter 1 on ... -/
theorem lifetime_decreases_by_one_sum64 (hs : List Nat) (c : Nat) (hne : hs ≠ []) (hsum : hs.sum = 64)
    (hc0 : 1 ≤ c) (hc : c + 1 < 2 ^ 64) :
    lifetimeOf hs (leavesOfCounter hs (c + 1)) + 1 = lifetimeOf hs (leavesOfCounter hs c) := by
  have hl : leavesTotal hs = 2 ^ 64 := by simp only [leavesTotal, hsum]
  refine lifetime_decreases_by_one_all hs c hne (hl ▸ hc) ?_
  rw [hl]
  exact Nat.sub_le_sub_left hc0 _

/-- ... but the first signature does not lower the report -/
theorem lifetime_first_step_stalls_sum64 (hs : List Nat) (hne : hs ≠ []) (hsum : hs.sum = 64) :
    lifetimeOf hs (leavesOfCounter hs 1) = lifetimeOf hs (leavesOfCounter hs 0) := by
  rw [lifetime_of_counter_sum64 hs 1 hne hsum (by decide), lifetime_of_counter_sum64 hs 0 hne hsum (by decide)]
  rfl

/-- from total height 65 on `Props.C05.lifetime_decreases_by_one` fails at every counter: the report never moves -/
theorem lifetime_never_decreases_ge65 (hs : List Nat) (c : Nat) (hsum : 65 ≤ hs.sum) (hc : c + 1 < 2 ^ 64) :
    lifetimeOf hs (leavesOfCounter hs (c + 1)) = lifetimeOf hs (leavesOfCounter hs c) := by
  rw [lifetime_of_counter_ge65 hs (c + 1) hsum hc, lifetime_of_counter_ge65 hs c hsum (Nat.lt_of_succ_lt hc)]

/-- `Props.C05.last_counter_lifetime_one` holds up to total height 64: the key at its last counter `capacity hs - 1`
reports one remaining signature -/
theorem last_counter_lifetime_one_le64 (hs : List Nat) (hne : hs ≠ []) (hsum : hs.sum ≤ 64) :
    lifetimeOf hs (leavesOfCounter hs (capacity hs - 1)) = 1 := by
  have hp : 0 < leavesTotal hs := Nat.two_pow_pos _
  rw [capacity_le64 hs hsum, lifetime_of_counter_all hs _ hne (Nat.sub_lt hp (by decide)), Nat.sub_sub_self hp]
  exact Nat.min_eq_left (by decide)

/-- from total height 65 on the key at its last counter `2^64 - 1` (the next signing call wipes it) still reports
`2^64 - 1` remaining signatures -/
theorem last_counter_lifetime_ge65 (hs : List Nat) (hsum : 65 ≤ hs.sum) :
    capacity hs - 1 = 2 ^ 64 - 1 ∧ lifetimeOf hs (leavesOfCounter hs (capacity hs - 1)) = 2 ^ 64 - 1 := by
  rw [capacity_tall hs (Nat.le_of_succ_le hsum)]
  exact ⟨rfl, lifetime_of_counter_ge65 hs _ hsum (by decide)⟩

/-- every shape: the report is never zero while the key can still sign -/
theorem lifetime_pos_while_live (hs : List Nat) (c : Nat) (hne : hs ≠ []) (hc : c < capacity hs) :
    1 ≤ lifetimeOf hs (leavesOfCounter hs c) := by
  have hcN : c < leavesTotal hs := Nat.lt_of_lt_of_le hc (capacity_le_leaves hs)
  rw [lifetime_of_counter_all hs c hne hcN]
  exact Nat.le_min.2 ⟨Nat.sub_pos_of_lt hcN, by decide⟩

/-- every shape: the report under-states the true number of remaining signatures `capacity hs - c` by at most one -/
theorem lifetime_underreports_by_at_most_one (hs : List Nat) (c : Nat) (hne : hs ≠ []) (hc : c < capacity hs) :
    capacity hs - c ≤ lifetimeOf hs (leavesOfCounter hs c) + 1 := by
  have hleaves := capacity_le_leaves hs
  have hu64 := Lemmas.capacity_le_u64 hs
  rw [lifetime_of_counter_all hs c hne (Nat.lt_of_lt_of_le hc hleaves)]
  omega

/-- up to total height 64 the report is the true number of remaining signatures, except for the fresh key of total
height exactly 64 -/
theorem lifetime_is_remaining_le64 (hs : List Nat) (c : Nat) (hne : hs ≠ []) (hsum : hs.sum ≤ 64)
    (hc : c < capacity hs) (hex : hs.sum ≤ 63 ∨ 1 ≤ c) :
    lifetimeOf hs (leavesOfCounter hs c) = capacity hs - c := by
  rw [lifetime_of_counter_all hs c hne (Nat.lt_of_lt_of_le hc (capacity_le_leaves hs)), ← capacity_le64 hs hsum]
  -- nothing is cut off: `capacity hs - c ≤ 2^64 - 1`
  apply Nat.min_eq_left
  rcases hex with h | h
  · have h63 : capacity hs ≤ 2 ^ 63 := by
      rw [Lemmas.capacity_le63 hs h]; exact Nat.pow_le_pow_right (by decide) h
    exact Nat.le_trans (Nat.sub_le _ _) (Nat.le_trans h63 (by decide))
  · exact Nat.le_trans (Nat.sub_le_sub_left h _) (Nat.sub_le_sub_right (Lemmas.capacity_le_u64 hs) 1)

theorem lifetime_plus_released_all (hs : List Nat) (hne : hs ≠ []) (ops : List Op)
    (c : Nat) (hlive : (run hs (.live 0) ops).1 = .live c) :
    lifetimeOf hs (leavesOfCounter hs c) + (run hs (.live 0) ops).2.length
      = min (leavesTotal hs) (2 ^ 64 - 1 + (run hs (.live 0) ops).2.length) := by
  obtain ⟨hrel, hc⟩ := Lemmas.run_fresh_live hlive
  have hcN : c < leavesTotal hs := Nat.lt_of_lt_of_le hc (capacity_le_leaves hs)
  rw [hrel, List.length_range, lifetime_of_counter_all hs c hne hcN, ← Nat.add_min_add_right,
    Nat.sub_add_cancel (Nat.le_of_lt hcN)]

/-- `Props.C05.lifetime_plus_released_is_total` with the capacity as the total holds up to total height 64 (for total
height exactly 64: once at least one signature was released) -/
theorem lifetime_plus_released_is_capacity_le64 (hs : List Nat) (hne : hs ≠ []) (hsum : hs.sum ≤ 64) (ops : List Op)
    (c : Nat) (hlive : (run hs (.live 0) ops).1 = .live c)
    (hex : hs.sum ≤ 63 ∨ 1 ≤ (run hs (.live 0) ops).2.length) :
    lifetimeOf hs (leavesOfCounter hs c) + (run hs (.live 0) ops).2.length = capacity hs := by
  obtain ⟨hrel, hc⟩ := Lemmas.run_fresh_live hlive
  rw [hrel, List.length_range] at hex ⊢
  rw [lifetime_is_remaining_le64 hs c hne hsum hc hex]
  exact Nat.sub_add_cancel (Nat.le_of_lt hc)

/-- from total height 65 on lifetime plus released is `2^64 - 1 + released`: not a constant, and above the capacity as soon
as two signatures were released -/
theorem lifetime_plus_released_ge65 (hs : List Nat) (hsum : 65 ≤ hs.sum) (ops : List Op)
    (c : Nat) (hlive : (run hs (.live 0) ops).1 = .live c) :
    lifetimeOf hs (leavesOfCounter hs c) + (run hs (.live 0) ops).2.length
      = 2 ^ 64 - 1 + (run hs (.live 0) ops).2.length := by
  have hle := released_count_le_capacity hs ops
  rw [capacity_tall hs (Nat.le_of_succ_le hsum)] at hle
  have hl : 2 * 2 ^ 64 ≤ leavesTotal hs := leaves_ge65 hsum
  rw [lifetime_plus_released_all hs (ne_nil_of_sum_pos (by omega)) ops c hlive]
  -- `2^64 - 1 + released ≤ 2^64 + 2^64` is below the number of leaves
  omega

/-- `Props.C05.getLifetime_reports_remaining` for every shape: whenever `SigningKey::get_lifetime` answers, the answer is
`min (leaves - counter) (2^64 - 1)` with the heights of the key's own parameter bytes. -/
theorem getLifetime_reports_saturated_remaining {H : HashFn} {cfg : Config} {sk : Bytes} {L : Nat}
    (h : getLifetime H cfg sk = .ok (some L)) :
    ∃ k ps, RefKey.parse H.n sk = some k ∧ paramsOfBytes cfg H.n k.params = some ps ∧
      (k.counter < leavesTotal (ps.map (·.lms.h)) →
        L = min (leavesTotal (ps.map (·.lms.h)) - k.counter) (2 ^ 64 - 1)) := by
  obtain ⟨k, ps, hk, hps, hne, hL⟩ := Lemmas.getLifetime_value h
  refine ⟨k, ps, hk, hps, fun hc => ?_⟩
  rw [hL]
  exact lifetime_of_counter_all _ _ (by simpa using hne) hc

/-- `Props.C03.session_never_reuses_a_leaf` without the bound on the total height, for a key with a counter below the
capacity (for tall shapes: below `2^64`, which every parsed key satisfies): in every session of `Impl.hssSign` calls
the released signatures come from keys with strictly increasing counters below the capacity, and their leaf vectors
are pairwise different. -/
theorem session_never_reuses_a_leaf_all {H : HashFn} {cfg : Config} {k0 : RefKey} {ps : List HssParam}
    (hp8 : k0.params.length = 8) (hseed : k0.seed.length = H.n)
    (hps : paramsOfBytes cfg H.n k0.params = some ps)
    (hc0 : k0.counter < capacity (ps.map (·.lms.h)))
    (calls : List Call) (skN : Bytes) (log : List (Bytes × Bytes))
    (h : session H cfg k0.bytes calls = .ok (skN, log)) :
    ∃ (cs : List Nat) (final : KeyState),
      log.map (·.1) = cs.map (fun c => ({ k0 with counter := c } : RefKey).bytes) ∧
      cs.Pairwise (· < ·) ∧
      (∀ c, c ∈ cs → k0.counter ≤ c ∧ c < capacity (ps.map (·.lms.h))) ∧
      (cs.map (leavesOfCounter (ps.map (·.lms.h)))).Nodup ∧
      log.length ≤ capacity (ps.map (·.lms.h)) - k0.counter ∧
      skN = (Lemmas.keyOfState k0 H.n final).bytes ∧ Lemmas.validStateCap (ps.map (·.lms.h)) final :=
  let ⟨rels, final, hlog, _, hrest⟩ := Lemmas.session_from_live hp8 hseed hps hc0 calls skN log h
  ⟨rels.map (·.counter), final, by rw [hlog, List.map_map, List.map_map]; rfl, hrest⟩

/-- tall shapes, from key bytes: sessions never reuse a leaf vector.  A blob that parses has its counter below `2^64`, so
no hypothesis on the counter is needed. -/
theorem tall_session_never_reuses_a_leaf {H : HashFn} {cfg : Config} {sk : Bytes} {k0 : RefKey} {ps : List HssParam}
    (hparse : RefKey.parse H.n sk = some k0)
    (hps : paramsOfBytes cfg H.n k0.params = some ps) (hsum : 64 ≤ (ps.map (·.lms.h)).sum)
    (calls : List Call) (skN : Bytes) (log : List (Bytes × Bytes))
    (h : session H cfg k0.bytes calls = .ok (skN, log)) :
    ∃ (cs : List Nat),
      log.map (·.1) = cs.map (fun c => ({ k0 with counter := c } : RefKey).bytes) ∧
      cs.Pairwise (· < ·) ∧ (∀ c, c ∈ cs → k0.counter ≤ c ∧ c < 2 ^ 64) ∧
      (cs.map (leavesOfCounter (ps.map (·.lms.h)))).Nodup ∧
      log.length ≤ 2 ^ 64 - k0.counter := by
  obtain ⟨_, hp8, hseed, _⟩ := Lemmas.RefKey.parse_some hparse
  have hcap := capacity_tall (ps.map (·.lms.h)) hsum
  obtain ⟨cs, _, h1, h2, h3, h4, h5, _, _⟩ :=
    session_never_reuses_a_leaf_all hp8 hseed hps (by rw [hcap]; exact RefKey.parse_counter_lt hparse) calls skN log h
  rw [hcap] at h3 h5
  exact ⟨cs, h1, h2, h3, h4, h5⟩

-- non-vacuity: three H25 trees (total height 75); total height 64 is not reachable with the library's heights
-- {5,10,15,20,25}, so `[32, 32]` stands in for it
example : capacity [25, 25, 25] = 2 ^ 64 ∧ leavesTotal [25, 25, 25] = 2 ^ 75 := by decide +kernel
example : capacity [20, 20, 20] = 2 ^ 60 := by decide +kernel
example : incrementCounter [25, 25, 25] (2 ^ 64 - 2) = some (2 ^ 64 - 1) := by decide +kernel
example : incrementCounter [25, 25, 25] (2 ^ 64 - 1) = none := by decide +kernel
example : lifetimeOf [25, 25, 25] (leavesOfCounter [25, 25, 25] 0) = 2 ^ 64 - 1 := by decide +kernel
example : lifetimeOf [25, 25, 25] (leavesOfCounter [25, 25, 25] (2 ^ 64 - 1)) = 2 ^ 64 - 1 := by decide +kernel
example : lifetimeOf [32, 32] (leavesOfCounter [32, 32] 0) = 2 ^ 64 - 1 := by decide +kernel
example : lifetimeOf [32, 32] (leavesOfCounter [32, 32] 1) = 2 ^ 64 - 1 := by decide +kernel
example : lifetimeOf [32, 32] (leavesOfCounter [32, 32] 2) = 2 ^ 64 - 2 := by decide +kernel
example : lifetimeOf [32, 32] (leavesOfCounter [32, 32] (2 ^ 64 - 1)) = 1 := by decide +kernel
example : leavesOfCounter [25, 25, 25] (2 ^ 64 - 1) = [2 ^ 14 - 1, 2 ^ 25 - 1, 2 ^ 25 - 1] := by decide +kernel
example : run [25, 25, 25] (.live (2 ^ 64 - 2)) [.signAccept, .signReject, .signAccept, .signAccept]
    = (.wiped, [2 ^ 64 - 2, 2 ^ 64 - 1]) := by decide +kernel
-- a three-level H25/W8 key blob under the default configuration is accepted by the model's parameter parser
example : (paramsOfBytes Config.default 32 [0x94, 0x94, 0x94, 255, 255, 255, 255, 255]).map
    (fun ps => ps.map (·.lms.h)) = some [25, 25, 25] := by decide +kernel

end Props.C05Tall

#print axioms Props.C05Tall.capacity_eq_min_leaves_u64
#print axioms Props.C05Tall.capacity_le63
#print axioms Props.C05Tall.capacity_le64
#print axioms Props.C05Tall.capacity_le_leaves
#print axioms Props.C05Tall.capacity_lt_leaves
#print axioms Props.C05Tall.capacity_is_max_released
#print axioms Props.C05Tall.successor_all
#print axioms Props.C05Tall.increment_wipes_exactly_at_capacity
#print axioms Props.C05Tall.tall_increment_wipes_exactly_at_u64_max
#print axioms Props.C05Tall.tall_last_counter_value_is_released
#print axioms Props.C05Tall.released_counters_are_consecutive_all
#print axioms Props.C05Tall.released_counters_from_all
#print axioms Props.C05Tall.tall_released_counters_are_consecutive
#print axioms Props.C05Tall.nth_released_uses_mixed_radix_leaves_all
#print axioms Props.C05Tall.no_leaf_vector_released_twice_all
#print axioms Props.C05Tall.tall_no_leaf_vector_released_twice
#print axioms Props.C05Tall.no_leaf_vector_released_twice_from
#print axioms Props.C05Tall.distinct_releases_use_distinct_leaves_all
#print axioms Props.C05Tall.outcome_depends_only_on_accepted_all
#print axioms Props.C05Tall.released_count_le_capacity
#print axioms Props.C05Tall.released_count_le_leaves_all
#print axioms Props.C05Tall.capacity_used_iff_wiped
#print axioms Props.C05Tall.all_leaves_used_iff_wiped_le64
#print axioms Props.C05Tall.tall_never_uses_all_leaves
#print axioms Props.C05Tall.tall_wiped_without_all_leaves_used
#print axioms Props.C05Tall.lifetime_closed_form_all
#print axioms Props.C05Tall.lifetime_eq_all
#print axioms Props.C05Tall.lifetime_of_counter_all
#print axioms Props.C05Tall.lifetime_of_counter_sum64
#print axioms Props.C05Tall.lifetime_of_counter_ge65
#print axioms Props.C05Tall.fresh_key_lifetime_all
#print axioms Props.C05Tall.fresh_key_lifetime_tall
#print axioms Props.C05Tall.lifetime_decreases_by_one_all
#print axioms Props.C05Tall.lifetime_monotone_all
#print axioms Props.C05Tall.lifetime_decreases_by_one_sum64
#print axioms Props.C05Tall.lifetime_first_step_stalls_sum64
#print axioms Props.C05Tall.lifetime_never_decreases_ge65
#print axioms Props.C05Tall.last_counter_lifetime_one_le64
#print axioms Props.C05Tall.last_counter_lifetime_ge65
#print axioms Props.C05Tall.lifetime_pos_while_live
#print axioms Props.C05Tall.lifetime_underreports_by_at_most_one
#print axioms Props.C05Tall.lifetime_is_remaining_le64
#print axioms Props.C05Tall.lifetime_plus_released_all
#print axioms Props.C05Tall.lifetime_plus_released_is_capacity_le64
#print axioms Props.C05Tall.lifetime_plus_released_ge65
#print axioms Props.C05Tall.getLifetime_reports_saturated_remaining
#print axioms Props.C05Tall.session_never_reuses_a_leaf_all
#print axioms Props.C05Tall.tall_session_never_reuses_a_leaf
