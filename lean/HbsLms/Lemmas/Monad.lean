/-
Reading a `do` block of the model without unfolding `bind`. A run `x >>= f` returns `b` exactly when `x` returns some
`a` and `f a` returns `b` (`bind_eq_ok`); `P.require s c >>= f` returns exactly when `c` holds and `f ()` returns; each
checked primitive (`slice`, `idx`, `pushCap`, `extendCap`) returns exactly when its bound holds (`*_eq_ok`, and `*_of_le`
/ `*_of_lt` for the direction that computes). `Agree` relates two runs that differ in their checks only.
`foldlM_range_append` and `foldlM_add_sum` are closed forms of the two loop shapes of LM-OTS (chain ends, checksum).
-/
import HbsLms.Basic.Fault

namespace P

variable {α α' β γ : Type}

@[simp] theorem pure_eq (a : α) : (pure a : P α) = .ok a := rfl
@[simp] theorem ok_bind (a : α) (f : α → P β) : (Except.ok a >>= f) = f a := rfl
@[simp] theorem panic_bind (s : String) (f : α → P β) : ((panic s : P α) >>= f) = panic s := rfl
@[simp] theorem panic_ne_ok (s : String) (a : α) : (panic s : P α) ≠ .ok a := fun h => nomatch h
@[simp] theorem ok_ne_panic (s : String) (a : α) : (.ok a : P α) ≠ panic s := fun h => nomatch h
@[simp] theorem map_ok (f : α → β) (a : α) : Except.map f (.ok a : P α) = .ok (f a) := rfl

theorem pure_eq_ok {a b : α} : (pure a : P α) = .ok b ↔ a = b := ⟨Except.ok.inj, congrArg _⟩

theorem bind_eq_ok {x : P α} {f : α → P β} {b : β} : (x >>= f) = .ok b ↔ ∃ a, x = .ok a ∧ f a = .ok b := by
  cases x with
  | error e => exact ⟨fun h => (nomatch h), fun ⟨_, h, _⟩ => (nomatch h)⟩
  | ok a => exact ⟨fun h => ⟨a, rfl, h⟩, fun ⟨_, h, hf⟩ => by cases h; exact hf⟩

theorem map_eq_ok {x : P α} {f : α → β} {b : β} : Except.map f x = .ok b ↔ ∃ a, x = .ok a ∧ f a = b := by
  cases x with
  | error e => exact ⟨fun h => (nomatch h), fun ⟨_, h, _⟩ => (nomatch h)⟩
  | ok a => exact ⟨fun h => ⟨a, rfl, Except.ok.inj h⟩, fun ⟨_, h, hf⟩ => by cases h; exact congrArg _ hf⟩

theorem map_bind (f : β → γ) (x : P α) (g : α → P β) :
    Except.map f (x >>= g) = x >>= fun v => Except.map f (g v) := by cases x <;> rfl

theorem bind_map (f : α → β) (x : P α) (g : β → P γ) : (Except.map f x >>= g) = x >>= fun v => g (f v) := by
  cases x <;> rfl

theorem map_map (f : α → β) (g : β → γ) (x : P α) : Except.map g (Except.map f x) = Except.map (g ∘ f) x := by
  cases x <;> rfl

/-- Two runs that are equal after projecting their results (`x.map f = y.map g`: the same fault, or results with
`f a = g b`) may be continued by functions that agree on such results. -/
theorem bind_congr_of_map {x : P α} {y : P α'} {f : α → γ} {g : α' → γ} (h : x.map f = y.map g)
    {k : α → P β} {k' : α' → P β} (hk : ∀ a b, x = .ok a → y = .ok b → f a = g b → k a = k' b) :
    x >>= k = y >>= k' := by
  cases x with
  | error e =>
    cases y with
    | error e' => cases h; rfl
    | ok b => cases h
  | ok a =>
    cases y with
    | error e' => cases h
    | ok b => exact hk a b rfl rfl (Except.ok.inj h)

/-- of two runs that are equal after projection, if one returns so does the other -/
theorem ok_of_map_eq {x : P α} {y : P α'} {f : α → γ} {g : α' → γ} (h : x.map f = y.map g) {a : α}
    (hx : x = .ok a) : ∃ b, y = .ok b ∧ f a = g b := by
  subst hx
  cases y with
  | error e => cases h
  | ok b => exact ⟨b, rfl, Except.ok.inj h⟩

@[simp] theorem require_true (s : String) : require s true = .ok () := rfl
@[simp] theorem require_false (s : String) : require s false = panic s := rfl

theorem require_eq_ok {s : String} {c : Bool} {u : Unit} : require s c = .ok u ↔ c = true := by
  cases c <;> simp

theorem require_bind_eq_ok {s : String} {c : Bool} {f : Unit → P β} {b : β} :
    (require s c >>= f) = .ok b ↔ c = true ∧ f () = .ok b := by
  cases c <;> simp

theorem slice_eq_ok {s : String} {b r : Bytes} {st len : Nat} :
    slice s b st len = .ok r ↔ st + len ≤ b.length ∧ r = Bytes.slice b st len := by
  unfold slice; split <;> simp [*, eq_comm]

theorem slice_of_le {s : String} {b : Bytes} {st len : Nat} (h : st + len ≤ b.length) :
    slice s b st len = .ok (Bytes.slice b st len) := if_pos h

theorem idx_eq_ok {s : String} {l : List α} {i : Nat} {x : α} : idx s l i = .ok x ↔ l[i]? = some x := by
  unfold idx; split <;> simp [*, eq_comm]

theorem idx_of_lt {s : String} {l : List α} {i : Nat} (h : i < l.length) : idx s l i = .ok l[i] := by
  simp [idx, List.getElem?_eq_getElem h]

theorem pushCap_eq_ok {s : String} {cap : Nat} {l r : List α} {x : α} :
    pushCap s cap l x = .ok r ↔ l.length < cap ∧ r = l ++ [x] := by
  unfold pushCap; split <;> simp [*, eq_comm]

theorem pushCap_of_lt {s : String} {cap : Nat} {l : List α} {x : α} (h : l.length < cap) :
    pushCap s cap l x = .ok (l ++ [x]) := if_pos h

theorem extendCap_eq_ok {s : String} {cap : Nat} {l x r : Bytes} :
    extendCap s cap l x = .ok r ↔ l.length + x.length ≤ cap ∧ r = l ++ x := by
  unfold extendCap; split <;> simp [*, eq_comm]

theorem extendCap_of_le {s : String} {cap : Nat} {l x : Bytes} (h : l.length + x.length ≤ cap) :
    extendCap s cap l x = .ok (l ++ x) := if_pos h

theorem mapM_eq {f : α → P β} {g : α → β} {l : List α} (h : ∀ a ∈ l, f a = .ok (g a)) :
    l.mapM f = .ok (l.map g) := by
  induction l with
  | nil => rfl
  | cons a t ih =>
    rw [List.mapM_cons, h a List.mem_cons_self, ih fun b hb => h b (List.mem_cons_of_mem _ hb)]; rfl

theorem mapM_inv {f : α → P β} {g : α → β} (hf : ∀ a b, f a = .ok b → b = g a) {l : List α} {r : List β}
    (h : l.mapM f = .ok r) : r = l.map g := by
  induction l generalizing r with
  | nil => exact (pure_eq_ok.1 h).symm
  | cons a t ih =>
    rw [List.mapM_cons] at h
    obtain ⟨b, hb, h⟩ := bind_eq_ok.1 h
    obtain ⟨bs, hbs, h⟩ := bind_eq_ok.1 h
    rw [← pure_eq_ok.1 h, hf a b hb, ih hbs, List.map_cons]

end P

namespace Lemmas

/-- Two runs that return the same value whenever both return. Nothing is said of a run that faults, so an equation
between two functions follows from `Agree` only together with totality on both sides. -/
def Agree {α : Type} (x y : P α) : Prop := ∀ a b, x = .ok a → y = .ok b → a = b

theorem Agree.refl {α : Type} (x : P α) : Agree x x := fun _ _ h1 h2 => Except.ok.inj (h1.symm.trans h2)

theorem Agree.bind {α β : Type} {x y : P α} {f g : α → P β} (h : Agree x y) (hf : ∀ a, Agree (f a) (g a)) :
    Agree (x >>= f) (y >>= g) := by
  intro a b h1 h2
  obtain ⟨u, hu, h1⟩ := P.bind_eq_ok.1 h1
  obtain ⟨v, hv, h2⟩ := P.bind_eq_ok.1 h2
  cases h u v hu hv
  exact hf u a b h1 h2

theorem Agree.require {β : Type} (s s' : String) (c c' : Bool) {f g : Unit → P β} (h : Agree (f ()) (g ())) :
    Agree (P.require s c >>= f) (P.require s' c' >>= g) :=
  fun a b h1 h2 => h a b (P.require_bind_eq_ok.1 h1).2 (P.require_bind_eq_ok.1 h2).2

/-- a loop that appends one value per index (`lmotsCandidate`: the end of the chain of each digit) -/
theorem foldlM_range_append {β : Type} (f : List β → Nat → P (List β)) (g : Nat → β) (k : Nat)
    (hf : ∀ acc i, i < k → acc.length = i → f acc i = .ok (acc ++ [g i])) :
    (List.range k).foldlM f [] = .ok ((List.range k).map g) := by
  induction k with
  | zero => rfl
  | succ k ih =>
    rw [List.range_succ, List.foldlM_append, ih (fun acc i hi hl => hf acc i (by omega) hl), P.ok_bind,
      List.foldlM_cons, hf _ k (by omega) (by rw [List.length_map, List.length_range]), P.ok_bind,
      List.foldlM_nil, List.map_append]
    rfl

/-- the step may assume that the running total stays below the final one: this is what discharges a `u16` overflow
check -/
theorem foldlM_add_sum {α : Type} (step : Nat → α → P Nat) (g : α → Nat) (l : List α) (a : Nat)
    (h : ∀ acc, ∀ x ∈ l, acc + g x ≤ a + (l.map g).sum → step acc x = .ok (acc + g x)) :
    l.foldlM step a = .ok (a + (l.map g).sum) := by
  induction l generalizing a with
  | nil => rfl
  | cons x t ih =>
    simp only [List.map_cons, List.sum_cons, ← Nat.add_assoc] at h ⊢
    rw [List.foldlM_cons, h a x (by simp) (by omega)]
    exact ih _ fun acc y hy hle => h acc y (by simp [hy]) hle

end Lemmas
