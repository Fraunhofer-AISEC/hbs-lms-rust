/-
Signing never faults: every `P.require`, index and capacity site of `lm_ots::signing`, `lms::signing`,
`hss::definitions`, `hss::signing` and `hss/reference_impl_private_key.rs` holds for whatever
`CompressedParameterSet::to` accepts under a well-formed build configuration, and what is assembled fits the
signature object. Also the outcomes of key generation on a refused parameter list.
-/
import HbsLms.Lemmas.Limits
import HbsLms.Lemmas.PrivKey
import HbsLms.Lemmas.CompleteOts
import HbsLms.Lemmas.NormalForm

namespace Lemmas

open Impl Generated Lemmas.Layout Lemmas.AuxCache

/-! Upper bounds on the length of a tree node as signing reads it, through the aux cache or not. They stand here
because only the capacity checks below need them: with a cache the node is whatever the buffer holds, so there is no
equation (`Complete.T_length`, `AuxCache.T_length` are the lengths of computed nodes). -/

theorem hss_extract_aux_data_length (n : Nat) (e : ExpAux) (r : Nat) (v : Bytes) (h : hss_extract_aux_data n e r = some v) :
    v.length ≤ n := by
  simp only [hss_extract_aux_data] at h
  split at h
  · cases h
  · split at h
    · cases h
    · cases h; exact List.length_take_le _ _

/-- `≤` and not `=`: the node may come from the aux cache, whatever that contains -/
theorem getTreeElement_length (H : HashFn) (k : LmsKey) (fuel r : Nat) (aux : Option ExpAux) :
    (getTreeElement H k fuel r aux).1.length ≤ H.n := by
  unfold getTreeElement
  split
  · -- a cache hit
    rename_i v hv
    obtain ⟨e, -, he⟩ := Option.bind_eq_some_iff.1 hv
    exact hss_extract_aux_data_length _ e r v he
  · -- computed: a hash value, or `[]` when the fuel is used up
    dsimp only
    split
    · exact Nat.le_of_eq (H.len_h _)
    · split
      · exact Nat.zero_le _
      · exact Nat.le_of_eq (H.len_h _)

theorem treeNode_length (H : HashFn) (k : LmsKey) (r : Nat) (aux : Option ExpAux) :
    (treeNode H k r aux).1.length ≤ H.n := getTreeElement_length H k _ r aux

/-- The fold is spelled with `match … with | (v, a)`, which is how it appears once `lmsSign` is unfolded by `simp only`;
`Complete.authPath_fold` states the same fold with `let (v, a) :=`. -/
theorem path_foldl_length (H : HashFn) (k : LmsKey) (leaf : Nat) : ∀ (l : List Nat) (acc : List Bytes × Option ExpAux),
    (∀ x ∈ acc.1, x.length ≤ H.n) →
    (∀ x ∈ (l.foldl (fun (acc : List Bytes × Option ExpAux) i =>
        match treeNode H k ((leaf / 2 ^ i) ^^^ 1) acc.2 with
        | (v, a) => (acc.1 ++ [v], a)) acc).1, x.length ≤ H.n) ∧
    (l.foldl (fun (acc : List Bytes × Option ExpAux) i =>
        match treeNode H k ((leaf / 2 ^ i) ^^^ 1) acc.2 with
        | (v, a) => (acc.1 ++ [v], a)) acc).1.length = acc.1.length + l.length := by
  intro l
  induction l with
  | nil => intro acc h; exact ⟨h, rfl⟩
  | cons i t ih =>
    intro acc h
    simp only [List.foldl_cons]
    have := ih (match treeNode H k ((leaf / 2 ^ i) ^^^ 1) acc.2 with | (v, a) => (acc.1 ++ [v], a)) (by
      intro x hx
      simp only [List.mem_append, List.mem_singleton] at hx
      rcases hx with hx | rfl
      · exact h x hx
      · exact treeNode_length H k _ _)
    refine ⟨this.1, ?_⟩
    rw [this.2]
    simp [Nat.add_assoc, Nat.add_comm 1]

/-- the compile-time capacities suffice for this (LM-OTS, LMS) pair -/
structure ParamCaps (cfg : Config) (n : Nat) (ots : LmotsParam) (lms : LmsParam) : Prop where
  row : IsOtsRow n ots
  chains : ots.p ≤ cfg.maxChains
  height : lms.h ≤ cfg.maxTreeHeight
  sigLen : lms_signature_length n ots.p lms.h ≤ cfg.maxLmsSigLen

theorem paramCaps_of_mem {cfg : Config} (hwf : cfg.wellFormed = true) {n : Nat} {ps : List HssParam}
    (hok : ParamsOk cfg n ps) {p : HssParam} (hp : p ∈ ps) : ParamCaps cfg n p.ots p.lms := by
  obtain ⟨i, hi, rfl⟩ := List.getElem_of_mem hp
  have h := (hok.level i hi).caps hwf
  exact ⟨(hok.level i hi).ots, h.chains, Nat.le_trans h.heightLevel h.heightMax, h.sigLen⟩

theorem lmsSign_ok (H : HashFn) (cfg : Config) (k : LmsKey) (q : Nat) (msg C : Bytes) (aux : Option ExpAux)
    (hc : ParamCaps cfg H.n k.ots k.lms) (hC : C.length = H.n) :
    ∃ r, lmsSign H cfg k q msg C aux = .ok r ∧
      ∀ sig a, r = some (sig, a) → sig.length ≤ lms_signature_length H.n k.ots.p k.lms.h := by
  unfold lmsSign
  split
  · exact ⟨none, rfl, by simp⟩
  · have ho := Complete.lmotsSign_eq H k.I (Bytes.u32be q) k.seed k.ots C msg (ots_row_props hc.row).good hC
    have hol := Complete.lmotsSigBytes_length H k.I (Bytes.u32be q) k.seed k.ots C msg hC
    rw [Nat.mul_add, Nat.mul_one] at hol
    generalize Complete.lmotsSigBytes H k.I (Bytes.u32be q) k.seed k.ots C msg = o at ho hol
    have hpath := path_foldl_length H k (2 ^ k.lms.h + q) (List.range k.lms.h) ([], aux) (by simp)
    have hlen : (Bytes.u32be q ++ o ++ Bytes.u32be k.lms.typeId ++
        ((List.range k.lms.h).foldl (fun (acc : List Bytes × Option ExpAux) i =>
          match treeNode H k (((2 ^ k.lms.h + q) / 2 ^ i) ^^^ 1) acc.2 with
          | (v, a) => (acc.1 ++ [v], a)) ([], aux)).1.flatten).length ≤ lms_signature_length H.n k.ots.p k.lms.h := by
      have := Digits.sum_map_le_length_mul _ List.length H.n hpath.1
      rw [← List.length_flatten, hpath.2] at this
      simp only [List.length_nil, List.length_range, Nat.zero_add] at this
      simp only [List.length_append, Bytes.u32be_length, lms_signature_length, lmots_signature_length]
      rw [Nat.mul_comm] at this
      omega
    have hcap := Nat.le_trans hlen hc.sigLen
    simp only [hc.chains, hc.height, hcap, decide_true, P.require_true, P.ok_bind, ho, P.pure_eq]
    exact ⟨_, rfl, fun sig a h => by simp only [Option.some.injEq, Prod.mk.injEq] at h; rw [← h.1]; exact hlen⟩

theorem lmsPublicKeyBytes_length_le {n : Nat} (k : LmsKey) (root : Bytes) (hI : k.I.length ≤ 16) (hr : root.length ≤ n) (hn : n ≤ 32) :
    (lmsPublicKeyBytes k root).length ≤ Config.maxLmsPkLen ∧
    (lmsPublicKeyBytes k root).length ≤ lms_public_key_length n := by
  simp only [lmsPublicKeyBytes, List.length_append, Bytes.u32be_length, Config.maxLmsPkLen, lms_public_key_length,
    MAX_HASH_SIZE]
  omega

theorem sum_map_dropLast_add_getLast {α : Type} (f : α → Nat) (l : List α) (h : l ≠ []) :
    (l.map f).sum = (l.dropLast.map f).sum + f (l.getLast h) := by
  conv => lhs; rw [← List.dropLast_concat_getLast h]
  rw [List.map_append, List.sum_append, List.map_singleton, List.sum_singleton]

/-- what `HssPrivateKey::from` holds for the levels below the top, for the parameter list `p0 :: rest`: one signature
and one public key per lower level, each within its capacity, the signatures together no longer than their nominal
lengths -/
structure SignedKeysFit (cfg : Config) (n : Nat) (p0 : HssParam) (rest : List HssParam) (sigs pubs : List Bytes) :
    Prop where
  sigs_length : sigs.length = rest.length
  pubs_length : pubs.length = rest.length
  pub_le : ∀ b ∈ pubs, b.length ≤ lms_public_key_length n
  sig_le : ∀ s ∈ sigs, s.length ≤ cfg.maxLmsSigLen
  sum_le : (sigs.map List.length).sum ≤
    (((p0 :: rest).dropLast).map fun p => lms_signature_length n p.ots.p p.lms.h).sum

/-- stated as what the loop appends to `acc`, so that no invariant on `acc` has to be carried through the induction -/
theorem expand_go_ok (H : HashFn) (cfg : Config) (leaves : List Nat) (hn : H.n ≤ 32) :
    ∀ (rest : List HssParam) (i : Nat) (parent : Level) (acc : Expanded) (aux : Option ExpAux) (live : Bool),
      ParamCaps cfg H.n parent.key.ots parent.key.lms → (∀ p ∈ rest, ParamCaps cfg H.n p.ots p.lms) →
      ∃ r, expandPrivateKey.go H cfg leaves i rest parent acc aux live = .ok r ∧
        ∀ ex a, r = some (ex, a) → ∃ sigs pubs, ex.sigs = acc.sigs ++ sigs ∧ ex.pubs = acc.pubs ++ pubs ∧
          SignedKeysFit cfg H.n (levelParam parent) rest sigs pubs := by
  intro rest
  induction rest with
  | nil =>
    intro i parent acc aux live _ _
    refine ⟨some (acc, aux), rfl, fun ex a h => ?_⟩
    obtain ⟨rfl, -⟩ := Prod.mk.inj (Option.some.inj h)
    exact ⟨[], [], (List.append_nil _).symm, (List.append_nil _).symm, rfl, rfl, nofun, nofun, Nat.le_refl _⟩
  | cons p rest ih =>
    intro i parent acc aux live hcaps hrest
    simp only [expandPrivateKey.go]
    have hI : (childSeedAndId H parent.key.seed parent.key.I parent.q).2.length ≤ 16 :=
      Complete.childSeedAndId_I_length H _ _ _ ▸ Nat.min_le_left _ _
    generalize childSeedAndId H parent.key.seed parent.key.I parent.q = cs at hI ⊢
    have hroot := treeNode_length H ⟨cs.2, cs.1, p.ots, p.lms⟩ 1 none
    generalize (treeNode H ⟨cs.2, cs.1, p.ots, p.lms⟩ 1 none).1 = root at hroot ⊢
    have hpk := lmsPublicKeyBytes_length_le (n := H.n) ⟨cs.2, cs.1, p.ots, p.lms⟩ root hI hroot hn
    generalize lmsPublicKeyBytes ⟨cs.2, cs.1, p.ots, p.lms⟩ root = pkb at hpk ⊢
    obtain ⟨r, hr, hrl⟩ := lmsSign_ok H cfg parent.key parent.q pkb (signatureRandomizer H cs.1 cs.2 parent.q)
      (if live = true then aux else none) hcaps (Complete.signatureRandomizer_length _ _ _ _)
    simp only [hpk.1, decide_true, P.require_true, P.ok_bind, hr]
    cases r with
    | none => exact ⟨none, rfl, fun _ _ h => nomatch h⟩
    | some sa =>
      obtain ⟨sig, aux'⟩ := sa
      have hsl := hrl sig aux' rfl
      obtain ⟨r', hr', hrl'⟩ := ih (i + 1) ⟨⟨cs.2, cs.1, p.ots, p.lms⟩, leaves.getD i 0⟩
        ⟨acc.levels ++ [⟨⟨cs.2, cs.1, p.ots, p.lms⟩, leaves.getD i 0⟩], acc.pubs ++ [pkb], acc.sigs ++ [sig]⟩
        (if live = true then aux' else aux) false (hrest p List.mem_cons_self)
        (fun q hq => hrest q (List.mem_cons_of_mem _ hq))
      refine ⟨r', hr', fun ex a hex => ?_⟩
      obtain ⟨sigs, pubs, hs, hp, hf⟩ := hrl' ex a hex
      refine ⟨sig :: sigs, pkb :: pubs, by rw [hs, List.append_assoc]; rfl, by rw [hp, List.append_assoc]; rfl,
        congrArg (· + 1) hf.sigs_length, congrArg (· + 1) hf.pubs_length, List.forall_mem_cons.2 ⟨hpk.2, hf.pub_le⟩,
        List.forall_mem_cons.2 ⟨Nat.le_trans hsl hcaps.sigLen, hf.sig_le⟩, ?_⟩
      rw [List.dropLast_cons_cons, List.map_cons, List.sum_cons, List.map_cons, List.sum_cons]
      exact Nat.add_le_add hsl hf.sum_le

theorem expandPrivateKey_ok (H : HashFn) (cfg : Config) (hwf : cfg.wellFormed = true) (k : RefKey)
    (aux : Option ExpAux) :
    ∃ r, expandPrivateKey H cfg k aux = .ok r ∧
      ∀ ex a, r = some (ex, a) → ∀ p0 rest, paramsOfBytes cfg H.n k.params = some (p0 :: rest) →
        SignedKeysFit cfg H.n p0 rest ex.sigs ex.pubs := by
  cases hst : signTop H cfg k with
  | none => exact ⟨none, expandPrivateKey_noTop hst aux, fun _ _ h => nomatch h⟩
  | some p0 =>
    obtain ⟨rest, hps⟩ := signTop_eq_some_iff.1 hst
    have hok := ParamsOk.of_paramsOfBytes hps
    obtain ⟨r, hr, hrl⟩ := expand_go_ok H cfg (leafVector (p0 :: rest) k.counter) hok.n_le rest 1
      (topLevel H k.seed p0 rest k.counter) ⟨[topLevel H k.seed p0 rest k.counter], [], []⟩ aux true
      (paramCaps_of_mem hwf hok List.mem_cons_self)
      (fun p hp => paramCaps_of_mem hwf hok (List.mem_cons_of_mem _ hp))
    refine ⟨r, (expandPrivateKey_of_params hps aux).trans hr, fun ex a hex p0' rest' h => ?_⟩
    cases hps.symm.trans h
    obtain ⟨sigs, pubs, hs, hp, hf⟩ := hrl ex a hex
    rw [List.nil_append] at hs hp
    rw [hs, hp]
    exact hf

/-- The length test of `SigningKey::from_bytes` needs no hypothesis: a blob that parses and is longer than the key object
has `n > 32`, and then no parameter bytes decode. -/
theorem getLifetime_of_parse {H : HashFn} {sk : Bytes} {k : RefKey} (hk : RefKey.parse H.n sk = some k) (cfg : Config) :
    getLifetime H cfg sk = (expandPrivateKey H cfg k none).map
      (Option.map fun e => lifetimeOf (e.1.levels.map (·.key.lms.h)) (e.1.levels.map (·.q))) := by
  rw [getLifetime_eq]
  by_cases hcap : sk.length > Config.maxPrivKeyLen
  · cases hp : paramsOfBytes cfg H.n k.params with
    | none => rw [if_pos hcap, expandPrivateKey_undecodable hp]; rfl
    | some ps =>
      have hn := (ParamsOk.of_paramsOfBytes hp).n_le
      have hl := (RefKey.parse_some hk).1
      simp only [Config.maxPrivKeyLen, REF_IMPL_MAX_PRIVATE_KEY_SIZE] at hcap
      omega
  · rw [if_neg hcap, hk]

theorem spks_flatten_le (c : Nat) : ∀ (sigs pubs : List Bytes), pubs.length = sigs.length →
    (∀ b ∈ pubs, b.length ≤ c) →
    (((List.range sigs.length).map fun i => sigs.getD i [] ++ pubs.getD i []).flatten).length ≤
      (sigs.map List.length).sum + sigs.length * c := by
  intro sigs
  induction sigs with
  | nil => intro pubs _ _; simp
  | cons s sigs ih =>
    intro pubs hl hb
    cases pubs with
    | nil => simp at hl
    | cons b pubs =>
      have h1 := ih pubs (by simpa using hl) (fun x hx => hb x (by simp [hx]))
      have h2 := hb b (by simp)
      simp only [List.length_cons, List.range_succ_eq_map, List.map_cons, List.map_map, List.flatten_cons,
        List.length_append, List.sum_cons, Nat.succ_mul]
      simp only [List.getD_cons_zero, Function.comp_def, List.getD_cons_succ]
      omega

theorem spks_each_le (A c : Nat) (sigs pubs : List Bytes) (hl : pubs.length = sigs.length)
    (hs : ∀ s ∈ sigs, s.length ≤ A) (hb : ∀ b ∈ pubs, b.length ≤ c) :
    ∀ x ∈ (List.range sigs.length).map fun i => sigs.getD i [] ++ pubs.getD i [], x.length ≤ A + c := by
  intro x hx
  obtain ⟨i, hi, rfl⟩ := List.mem_map.mp hx
  have hi1 : i < sigs.length := List.mem_range.mp hi
  have hi2 : i < pubs.length := by omega
  simp only [List.getD_eq_getElem?_getD, List.getElem?_eq_getElem hi1, List.getElem?_eq_getElem hi2,
    Option.getD_some, List.length_append]
  have := hs _ (List.getElem_mem hi1)
  have := hb _ (List.getElem_mem hi2)
  omega

/-- An assembled signature has at most `hssSigLen` bytes, the number `CompressedParameterSet::to` tested against the
`u16` length of the ArrayVec; under a well-formed configuration that is at most `maxHssSigLen`. So the capacity checks
at the end of `signPrepare` pass and the result fits the signature object. -/
theorem signBody_ok (H : HashFn) (cfg : Config) (hwf : cfg.wellFormed = true) (msg : Bytes) (k : RefKey)
    (g : Option ExpAux × Option Bytes × Bytes) (hkp : k.params.length = 8) (hks : k.seed.length = H.n) :
    ∃ p, signBody H cfg msg k g = .ok p ∧ SigFits cfg p := by
  unfold signBody
  obtain ⟨r, hr, hrl⟩ := expandPrivateKey_ok H cfg hwf k g.1
  rw [hr, P.ok_bind]
  cases r with
  | none => exact ⟨_, rfl, trivial⟩
  | some exa =>
    obtain ⟨ex, e1⟩ := exa
    -- the levels are those of the blob; the bottom level carries the last parameter of the list
    obtain ⟨p0, rest0, hps, hlev⟩ := expandPrivateKey_levels hr
    have hok := ParamsOk.of_paramsOfBytes hps
    have hf := hrl ex e1 rfl p0 rest0 hps
    have hne : topLevel H k.seed p0 rest0 k.counter :: lowerLevels H k.seed p0 rest0 k.counter ≠ [] :=
      List.cons_ne_nil _ _
    have hlast := List.getLast?_eq_some_getLast hne
    have hbp := List.getLast_map (f := levelParam)
      (l := topLevel H k.seed p0 rest0 k.counter :: lowerLevels H k.seed p0 rest0 k.counter)
      (List.cons_ne_nil _ _)
    simp only [levels_params] at hbp
    generalize List.getLast _ hne = bottom at hlast hbp
    rw [← hlev] at hlast
    have hcaps : ParamCaps cfg H.n bottom.key.ots bottom.key.lms :=
      paramCaps_of_mem hwf hok (p := levelParam bottom) (hbp ▸ List.getLast_mem _)
    have hL : ex.levels.length - 1 = ex.sigs.length := by
      rw [hlev, List.length_cons, lowerLevels_length, hf.sigs_length, Nat.add_sub_cancel]
    obtain ⟨r2, hr2, hrl2⟩ := lmsSign_ok H cfg bottom.key bottom.q msg
      (signatureRandomizer H bottom.key.seed bottom.key.I bottom.q)
      (if (ex.levels.length == 1) = true then e1 else none) hcaps (Complete.signatureRandomizer_length _ _ _ _)
    simp only [hlast, hr2, P.ok_bind]
    cases r2 with
    | none => exact ⟨_, rfl, trivial⟩
    | some be =>
      obtain ⟨bsig, e2'⟩ := be
      have hbl : bsig.length ≤ lms_signature_length H.n (levelParam bottom).ots.p (levelParam bottom).lms.h :=
        hrl2 bsig e2' rfl
      dsimp only
      rw [hL]
      have hlen := hf.pubs_length.trans hf.sigs_length.symm
      have h1 := spks_each_le cfg.maxLmsSigLen (lms_public_key_length H.n) ex.sigs ex.pubs hlen hf.sig_le hf.pub_le
      have h2 := spks_flatten_le (lms_public_key_length H.n) ex.sigs ex.pubs hlen hf.pub_le
      generalize List.map (fun i => ex.sigs.getD i [] ++ ex.pubs.getD i []) (List.range ex.sigs.length) = spks
        at h1 h2 ⊢
      -- `maxSignedPkLen = maxLmsSigLen + 56` by definition, 56 being `lms_public_key_length MAX_HASH_SIZE`
      have hpk56 : lms_public_key_length H.n ≤ 56 := by
        have := hok.n_le
        simp only [lms_public_key_length]; omega
      have hc1 : (spks.all fun s => decide (List.length s ≤ cfg.maxSignedPkLen)) = true := by
        apply List.all_eq_true.mpr
        intro s hs
        have := h1 s hs
        exact decide_eq_true (show s.length ≤ cfg.maxLmsSigLen + 56 by omega)
      -- level count, signed public keys and bottom signature add up to at most `hssSigLen`, term by term
      have hsl : (Bytes.u32be ex.sigs.length ++ spks.flatten ++ bsig).length ≤ hssSigLen H.n (p0 :: rest0) := by
        have hsum := hf.sum_le
        rw [hssSigLen_eq_sum, sum_map_dropLast_add_getLast _ _ (List.cons_ne_nil p0 rest0), hbp,
          List.length_cons, Nat.add_sub_cancel, ← hf.sigs_length]
        simp only [List.length_append, Bytes.u32be_length]
        omega
      -- and `hssSigLen` is below both caps: the one of the configuration and the `u16` of the signature object
      have hc2 : List.length (Bytes.u32be ex.sigs.length ++ spks.flatten ++ bsig) ≤ cfg.maxHssSigLen :=
        Nat.le_trans hsl (hssSigLen_le_max hwf hok)
      have hc3 : ∀ hs, (k.increment H.n hs).bytes.length ≤ Config.maxPrivKeyLen := by
        intro hs
        have := hok.n_le
        rw [RefKey.increment_bytes_length k H.n hs hkp hks]
        simp only [Config.maxPrivKeyLen, REF_IMPL_MAX_PRIVATE_KEY_SIZE]; omega
      simp only [hc1, hc2, hc3, decide_true, P.require_true, P.ok_bind, P.pure_eq]
      exact ⟨_, rfl, Nat.le_trans hsl hok.sigLen, hc2⟩

theorem signPrepare_ok (H : HashFn) (cfg : Config) (hwf : cfg.wellFormed = true) (msg : Bytes) (k : RefKey)
    (aux : Option Bytes) (hkp : k.params.length = 8) (hks : k.seed.length = H.n) :
    ∃ p, signPrepare H cfg msg k aux = .ok p ∧ SigFits cfg p := by
  cases hst : signTop H cfg k with
  | none => exact ⟨_, signPrepare_noTop H cfg msg k aux hst, trivial⟩
  | some p0 =>
    rw [signPrepare_of_top hst]
    exact signBody_ok H cfg hwf msg k _ hkp hks

theorem hssSign_eq_commit (H : HashFn) (cfg : Config) (hwf : cfg.wellFormed = true) (msg : Bytes) {sk : Bytes}
    {k : RefKey} (hk : RefKey.parse H.n sk = some k) (cb : Bytes → Bool) (aux : Option Bytes) :
    ∃ p, signPrepare H cfg msg k aux = .ok p ∧ SigFits cfg p ∧
      hssSign H cfg msg sk cb aux = .ok (signCommit H.n cfg cb k p) := by
  obtain ⟨_, hkp, hks, _⟩ := RefKey.parse_some hk
  obtain ⟨p, hp, hf⟩ := signPrepare_ok H cfg hwf msg k aux hkp hks
  refine ⟨p, hp, hf, ?_⟩
  rw [hssSign_of_parse hk, hp]
  rfl

theorem hssSign_ok (H : HashFn) (cfg : Config) (hwf : cfg.wellFormed = true) (msg sk : Bytes) (cb : Bytes → Bool)
    (aux : Option Bytes) : ∃ o, hssSign H cfg msg sk cb aux = .ok o := by
  cases hk : RefKey.parse H.n sk with
  | none => exact ⟨_, hssSign_of_parse_none hk cfg msg cb aux⟩
  | some k =>
    obtain ⟨p, _, _, ho⟩ := hssSign_eq_commit H cfg hwf msg hk cb aux
    exact ⟨_, ho⟩

theorem hssKeygen_undecodable {H : HashFn} {cfg : Config} {ps : List HssParam} {pb : Bytes}
    (hb : bytesOfParams cfg H.n ps = .ok (some pb)) (hp : paramsOfBytes cfg H.n pb = none) (seed : Bytes)
    (aux : Option Bytes) : hssKeygen H cfg ps seed aux = .ok ⟨none, aux, []⟩ := by
  have ht : keygenTop H cfg ps = none :=
    keygenTop_eq_none_iff.2 fun pb' ps' hb' hp' => by
      cases Except.ok.inj (hb.symm.trans hb')
      cases hp.symm.trans hp'
  rw [hssKeygen_noTop ht, hb]
  rfl

theorem hssKeygen_refused {H : HashFn} {cfg : Config} {ps : List HssParam}
    (h : bytesOfParams cfg H.n ps = .ok none) (seed : Bytes) (aux : Option Bytes) :
    hssKeygen H cfg ps seed aux = .ok ⟨none, aux, []⟩ := by
  have ht : keygenTop H cfg ps = none :=
    keygenTop_eq_none_iff.2 fun _ _ hb _ => nomatch h.symm.trans hb
  rw [hssKeygen_noTop ht, h]
  rfl

theorem hssKeygen_of_not_fits {H : HashFn} {cfg : Config} {ps : List HssParam} (h : ¬ FitsBuild cfg ps)
    (seed : Bytes) (aux : Option Bytes) : hssKeygen H cfg ps seed aux = .ok ⟨none, aux, []⟩ :=
  hssKeygen_refused (bytesOfParams_of_not_fits cfg H.n ps h) seed aux

end Lemmas
