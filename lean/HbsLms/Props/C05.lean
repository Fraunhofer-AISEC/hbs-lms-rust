/-
C05: lifetime accounting and the advance of the key state.  `Impl.lifetimeOf` (the model of
`HssPrivateKey::get_lifetime`: a bottom-up loop over the levels in saturating `u64` arithmetic) reports the number of
counters that are left, for total height at most 63 and a counter below the number of leaves; and one `Impl.hssSign`
call is one step of the key state machine `Spec.step` (Spec/History.lean), whose histories Props/C03.lean describes.
-/
import HbsLms.Props.C05Tall
import HbsLms.Props.C04

namespace Props.C05

open Impl Spec

/-- The lifetime reported for the key with counter `c` is the number of leaves minus `c`. -/
theorem lifetime_eq (hs : List Nat) (c : Nat) (hne : hs ≠ []) (hsum : hs.sum ≤ 63) (hc : c < 2 ^ hs.sum) :
    lifetimeOf hs (mixedRadix hs c) = 2 ^ hs.sum - c :=
  Lemmas.lifetime_eq hs c hne hsum hc

/-- the same on the leaf vector the library itself derives from the counter -/
theorem lifetime_of_counter (hs : List Nat) (c : Nat) (hne : hs ≠ []) (hsum : hs.sum ≤ 63)
    (hc : c < leavesTotal hs) :
    lifetimeOf hs (leavesOfCounter hs c) = leavesTotal hs - c := by
  rw [Lemmas.leavesOfCounter_eq]
  exact Lemmas.lifetime_eq hs c hne hsum hc

/-- A fresh key reports the full number of leaves. -/
theorem fresh_key_lifetime (hs : List Nat) (hne : hs ≠ []) (hsum : hs.sum ≤ 63) :
    lifetimeOf hs (leavesOfCounter hs 0) = leavesTotal hs := by
  rw [lifetime_of_counter hs 0 hne hsum (Nat.two_pow_pos _)]
  rfl

/-- Each advance of the counter lowers the reported lifetime by exactly one. -/
theorem lifetime_decreases_by_one (hs : List Nat) (c : Nat) (hne : hs ≠ []) (hsum : hs.sum ≤ 63)
    (hc : c + 1 < leavesTotal hs) :
    lifetimeOf hs (leavesOfCounter hs (c + 1)) + 1 = lifetimeOf hs (leavesOfCounter hs c) := by
  rw [lifetime_of_counter hs (c + 1) hne hsum hc, lifetime_of_counter hs c hne hsum (by omega)]
  omega

/-- The key at its last counter reports one remaining signature (never zero while it can still sign). -/
theorem last_counter_lifetime_one (hs : List Nat) (hne : hs ≠ []) (hsum : hs.sum ≤ 63) :
    lifetimeOf hs (leavesOfCounter hs (leavesTotal hs - 1)) = 1 := by
  have hp : 0 < leavesTotal hs := Nat.two_pow_pos _
  rw [lifetime_of_counter hs _ hne hsum (by omega)]
  omega

/-- The loop computes the closed form `Lemmas.life` for every leaf vector with one entry per level, not only for the
digit vectors of counters. -/
theorem lifetime_closed_form (hs qs : List Nat) (hlen : qs.length = hs.length) (hsum : hs.sum ≤ 63) :
    lifetimeOf hs qs = Lemmas.life hs qs := by
  have hle := Lemmas.life_le hs qs
  have h63 : 2 ^ hs.sum ≤ 2 ^ 63 := Nat.pow_le_pow_right (by omega) hsum
  rw [C05Tall.lifetime_closed_form_all hs qs hlen]
  omega

/-- `get_lifetime` never overflows: for any total height and every leaf vector the result fits the `u64` it is returned
in (`lifetimeOf` is a total function, so there is no panicking path to exclude). -/
theorem lifetime_never_panics (hs qs : List Nat) : lifetimeOf hs qs ≤ 2 ^ 64 - 1 := by
  rw [Lemmas.lifetimeOf_eq_lifeFold]
  unfold Lemmas.lifeFold
  generalize List.range hs.length = l
  cases l with
  | nil => simp
  | cons i l =>
    simp only [List.foldr_cons, Lemmas.lifeStep, Lemmas.sat]
    exact Nat.min_le_right _ _

/-- After any history of a fresh key that leaves it live, the reported lifetime plus the number of signatures released so
far is the number of leaves. -/
theorem lifetime_plus_released_is_total (hs : List Nat) (hne : hs ≠ []) (hsum : hs.sum ≤ 63) (ops : List Op)
    (c : Nat) (hlive : (run hs (.live 0) ops).1 = .live c) :
    lifetimeOf hs (leavesOfCounter hs c) + (run hs (.live 0) ops).2.length = leavesTotal hs := by
  rw [← C05Tall.capacity_le63 hs hsum]
  exact C05Tall.lifetime_plus_released_is_capacity_le64 hs hne (by omega) ops c hlive (Or.inl hsum)

/-- `SigningKey::get_lifetime` on key bytes: whenever it answers, the answer is the number of counters left, with the
heights of the key's own parameter bytes (total height at most 63, counter below the number of leaves). -/
theorem getLifetime_reports_remaining {H : HashFn} {cfg : Config} {sk : Bytes} {L : Nat}
    (h : getLifetime H cfg sk = .ok (some L)) :
    ∃ k ps, RefKey.parse H.n sk = some k ∧ paramsOfBytes cfg H.n k.params = some ps ∧
      L = lifetimeOf (ps.map (·.lms.h)) (leavesOfCounter (ps.map (·.lms.h)) k.counter) ∧
      ((ps.map (·.lms.h)).sum ≤ 63 → k.counter < leavesTotal (ps.map (·.lms.h)) →
        L = leavesTotal (ps.map (·.lms.h)) - k.counter) := by
  obtain ⟨k, ps, hk, hps, hne, hL⟩ := Lemmas.getLifetime_value h
  refine ⟨k, ps, hk, hps, hL, fun hsum hc => ?_⟩
  rw [hL]
  exact lifetime_of_counter _ _ (by simpa using hne) hsum hc

/-- One `hssSign` call is one `Spec.step` on the parsed key, whatever the inputs and the callback.
* `signFail`: the key did not parse or a step before the hand-over failed; the callback was not invoked and nothing
  was released.
* Otherwise the callback was invoked once, with the bytes of the successor state (`c+1`, or the wiped key after the
  last counter). Either it rejected and nothing was released (`signReject`); or it accepted and the signature
  assembled for counter `k.counter` was released (`signAccept`); or it accepted but the signature does not fit the
  signature object (more than 65535 bytes or above the configured maximum; excluded for accepted parameter sets by
  the limits, C14): the key advanced and nothing was released, a skipped counter, never a reused one. -/
theorem hssSign_realises_step {H : HashFn} {cfg : Config} {msg sk : Bytes} {cb : Bytes → Bool}
    {aux : Option Bytes} {o : SignOutcome} (h : hssSign H cfg msg sk cb aux = .ok o) :
    (o.result = none ∧ o.trace = []) ∨
    ∃ k hs sig a r, RefKey.parse H.n sk = some k ∧
      signPrepare H cfg msg k aux = .ok (.ready hs sig a r) ∧
      o.trace = [(Lemmas.keyOfState k H.n (step hs (.live k.counter) .signAccept).1).bytes] ∧
      ((cb (Lemmas.keyOfState k H.n (step hs (.live k.counter) .signAccept).1).bytes = false ∧ o.result = none) ∨
       (cb (Lemmas.keyOfState k H.n (step hs (.live k.counter) .signAccept).1).bytes = true ∧
          o.result = some sig ∧ (step hs (.live k.counter) .signAccept).2 = some k.counter) ∨
       (cb (Lemmas.keyOfState k H.n (step hs (.live k.counter) .signAccept).1).bytes = true ∧
          o.result = none ∧ (sig.length > 65535 ∨ sig.length > cfg.maxHssSigLen))) := by
  rcases Lemmas.hssSign_outcome_cases h with hnone | ⟨k, hs, sig, a, r, hk, hp, ht, hc⟩
  · exact Or.inl hnone
  · rw [Lemmas.increment_eq_step] at ht hc
    refine Or.inr ⟨k, hs, sig, a, r, hk, hp, ht, ?_⟩
    rcases hc with hrej | ⟨hcb, hr⟩ | hlong
    · exact Or.inl hrej
    · exact Or.inr (Or.inl ⟨hcb, hr, rfl⟩)
    · exact Or.inr (Or.inr hlong)

/-- If `hssSign` returns a signature, the callback accepted the key of the state after `signAccept`, and the released
counter is the parsed key's counter. -/
theorem release_implies_accepted_successor {H : HashFn} {cfg : Config} {msg sk : Bytes} {cb : Bytes → Bool}
    {aux : Option Bytes} {o : SignOutcome} {sig : Bytes}
    (h : hssSign H cfg msg sk cb aux = .ok o) (hs : o.result = some sig) :
    ∃ k hts, RefKey.parse H.n sk = some k ∧
      o.trace = [(Lemmas.keyOfState k H.n (step hts (.live k.counter) .signAccept).1).bytes] ∧
      cb (Lemmas.keyOfState k H.n (step hts (.live k.counter) .signAccept).1).bytes = true ∧
      (step hts (.live k.counter) .signAccept).2 = some k.counter := by
  obtain ⟨k, hts, hk, ht, hcb⟩ := C04.signature_only_after_accepted_callback H cfg msg sk cb aux o sig h hs
  rw [Lemmas.increment_eq_step] at ht hcb
  exact ⟨k, hts, hk, ht, hcb, rfl⟩

/-- If the callback rejects or is never invoked, no new key was accepted and nothing is released: the persisted
state is unchanged (`signReject` / `signFail`). -/
theorem no_acceptance_no_release {H : HashFn} {cfg : Config} {msg sk : Bytes} {cb : Bytes → Bool}
    {aux : Option Bytes} {o : SignOutcome} (h : hssSign H cfg msg sk cb aux = .ok o)
    (hno : ∀ k', k' ∈ o.trace → cb k' = false) : o.result = none :=
  Lemmas.hssSign_not_accepted h hno

/-- The heights `hs` with which a signing call advances the counter are the heights of the key's own parameter
bytes (so they are the same in every call on the same key: `increment` changes the counter only), and the signature
was assembled on the expanded key whose per-level leaves are the mixed-radix digits of the key's counter. -/
theorem signing_uses_key_heights_and_counter_leaves {H : HashFn} {cfg : Config} {msg : Bytes} {k : RefKey}
    {aux : Option Bytes} {hs : List Nat} {sig : Bytes} {a : Option Bytes} {r : Bytes}
    (h : signPrepare H cfg msg k aux = .ok (.ready hs sig a r)) :
    ∃ ps, paramsOfBytes cfg H.n k.params = some ps ∧ hs = ps.map (·.lms.h) ∧
      ∃ e0 ex e1, expandPrivateKey H cfg k e0 = .ok (some (ex, e1)) ∧
        ex.levels.map (·.q) = mixedRadix hs k.counter := by
  obtain ⟨ps, hps, _, hhs, e0, ex, e1, hex, hq⟩ := Lemmas.AuxCache.signPrepare_ready_shape h
  exact ⟨ps, hps, hhs, e0, ex, e1, hex, by rw [hq, Lemmas.leavesOfCounter_eq]⟩

example : lifetimeOf [5, 10, 2] (leavesOfCounter [5, 10, 2] 0) = 2 ^ 17 := by decide
example : lifetimeOf [5, 10, 2] (leavesOfCounter [5, 10, 2] (3 * 4096 + 7 * 4 + 1)) = 2 ^ 17 - (3 * 4096 + 7 * 4 + 1) := by
  decide
example : ([5, 10, 2] : List Nat) ≠ [] ∧ ([5, 10, 2] : List Nat).sum ≤ 63 ∧ 3 * 4096 + 7 * 4 + 1 < 2 ^ ([5, 10, 2] : List Nat).sum := by
  decide
example : lifetimeOf [20, 20, 20] (leavesOfCounter [20, 20, 20] (2 ^ 60 - 1)) = 1 := by decide

end Props.C05

#print axioms Props.C05.lifetime_eq
#print axioms Props.C05.lifetime_of_counter
#print axioms Props.C05.fresh_key_lifetime
#print axioms Props.C05.lifetime_decreases_by_one
#print axioms Props.C05.last_counter_lifetime_one
#print axioms Props.C05.lifetime_closed_form
#print axioms Props.C05.lifetime_never_panics
#print axioms Props.C05.lifetime_plus_released_is_total
#print axioms Props.C05.getLifetime_reports_remaining
#print axioms Props.C05.hssSign_realises_step
#print axioms Props.C05.release_implies_accepted_successor
#print axioms Props.C05.no_acceptance_no_release
#print axioms Props.C05.signing_uses_key_heights_and_counter_leaves
