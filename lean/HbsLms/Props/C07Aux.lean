/-
C07 / C03 with auxiliary data: the layout theorem of Props/C07 and the session theorems of Props/C03Ids, proved there
without aux data, for calls whose buffer is `Honest` for the key (Lemmas/AuxLifecycle: if the buffer is marked as used
and `hss_expand_aux_data` accepts it for the seed, its non-zero slots hold true nodes of the top tree). Signing with
such a buffer releases what signing without one does. `Honest` holds of absent, unmarked and MAC-rejected buffers and
of everything `hssKeygen` / `hssSign` of this key wrote back (`Reachable`), so no hypothesis about MACs is needed.
The side condition `cfg.maxTreeHeight ≤ 30` is explained at the head of Props/C10.
-/
import HbsLms.Props.C07
import HbsLms.Props.C10Life
import HbsLms.Props.C03Ids

namespace Props.C07Aux

open Impl Spec Lemmas.Layout Lemmas.Positions Lemmas.AuxCache Lemmas.AuxLifecycle
open Props.C10Life (Reachable)
open Props.C03Ids (SameContentAt IdsDistinguishPositions)

/-- C07 with an honest aux buffer: the released signature has the layout, the exact RFC 8554 length, and every level
of the key carries a 16-byte identifier, the Appendix B parameters of its type codes and a current leaf inside its
tree (the conclusion of `Props.C07.released_signature_spec`). -/
theorem released_signature_spec_honest_aux {H : HashFn} {cfg : Config} {msg sk : Bytes} {cb : Bytes → Bool}
    {aux : Option Bytes} {o : SignOutcome} {sig : Bytes} (hK : cfg.maxTreeHeight ≤ 30)
    (seed : Bytes) (p0 : HssParam) (hkf : KeyFor H cfg seed p0 sk) (hh : Honest H cfg seed p0 aux)
    (h : hssSign H cfg msg sk cb aux = .ok o) (hr : o.result = some sig) :
    ∃ k rest, RefKey.parse H.n sk = some k ∧ k.seed = seed ∧
      paramsOfBytes cfg H.n k.params = some (p0 :: rest) ∧
      sig = hssSigBytes H k.seed p0 rest k.counter msg ∧
      sig.length = 4 + ((p0 :: rest).map fun p => 12 + H.n * (p.ots.p + 1) + H.n * p.lms.h).sum +
        ((p0 :: rest).length - 1) * (24 + H.n) ∧
      (H.n = 16 ∨ H.n = 24 ∨ H.n = 32) ∧
      ∀ l ∈ topLevel H k.seed p0 rest k.counter :: lowerLevels H k.seed p0 rest k.counter,
        Props.C07.LevelAppendixB H.n l.key.ots l.key.lms ∧ l.key.I.length = 16 ∧ l.q < 2 ^ l.key.lms.h := by
  obtain ⟨o', h1, h2, _⟩ := Props.C10Life.sign_honest_same_signature H cfg hK msg sk cb aux seed p0 o hkf hh h
  obtain ⟨k, p0', rest, hk, hps, hsig, hlen, hn, hlv⟩ :=
    Props.C07.released_signature_spec h1 (by rw [h2]; exact hr)
  obtain ⟨hs, hp⟩ := hkf k hk p0' (signTop_eq_some_iff.2 ⟨_, hps⟩)
  subst hp
  exact ⟨k, rest, hk, hs, hps, hsig, hlen, hn, hlv⟩

/-- Every signature released by `hss_sign_core` with key bytes for `(seed, p0)` and an aux buffer that is honest for
`(seed, p0)` is `hssSigBytes` of the parsed blob's seed, parameter list and counter: exactly what is released without
aux data. -/
theorem released_signature_layout_honest_aux {H : HashFn} {cfg : Config} {msg sk : Bytes} {cb : Bytes → Bool}
    {aux : Option Bytes} {o : SignOutcome} {sig : Bytes} (hK : cfg.maxTreeHeight ≤ 30)
    (seed : Bytes) (p0 : HssParam) (hkf : KeyFor H cfg seed p0 sk) (hh : Honest H cfg seed p0 aux)
    (h : hssSign H cfg msg sk cb aux = .ok o) (hr : o.result = some sig) :
    ∃ k rest, RefKey.parse H.n sk = some k ∧ k.seed = seed ∧
      paramsOfBytes cfg H.n k.params = some (p0 :: rest) ∧
      sig = hssSigBytes H k.seed p0 rest k.counter msg := by
  obtain ⟨k, rest, hk, hs, hps, hsig, _⟩ := released_signature_spec_honest_aux hK seed p0 hkf hh h hr
  exact ⟨k, rest, hk, hs, hps, hsig⟩

/-- the same for key bytes that parse to `k` with top-level parameter `p0` -/
theorem released_signature_layout_honest_aux_of_parse {H : HashFn} {cfg : Config} {msg sk : Bytes}
    {cb : Bytes → Bool} {aux : Option Bytes} {o : SignOutcome} {sig : Bytes} (hK : cfg.maxTreeHeight ≤ 30)
    (k : RefKey) (p0 : HssParam) (hk : RefKey.parse H.n sk = some k) (hst : signTop H cfg k = some p0)
    (hh : Honest H cfg k.seed p0 aux)
    (h : hssSign H cfg msg sk cb aux = .ok o) (hr : o.result = some sig) :
    ∃ rest, paramsOfBytes cfg H.n k.params = some (p0 :: rest) ∧
      sig = hssSigBytes H k.seed p0 rest k.counter msg := by
  obtain ⟨k', rest, hk', _, hps, hsig⟩ :=
    released_signature_layout_honest_aux hK k.seed p0 (keyFor_of_parse hk hst) hh h hr
  rw [hk] at hk'
  cases hk'
  exact ⟨rest, hps, hsig⟩

/-- with `k`, `p0` and `rest` under the existential: literally the conclusion of `Props.C07.released_signature_layout` -/
theorem released_signature_layout_honest_aux_parsed {H : HashFn} {cfg : Config} {msg sk : Bytes}
    {cb : Bytes → Bool} {aux : Option Bytes} {o : SignOutcome} {sig : Bytes} (hK : cfg.maxTreeHeight ≤ 30)
    (k : RefKey) (p0 : HssParam) (hk : RefKey.parse H.n sk = some k) (hst : signTop H cfg k = some p0)
    (hh : Honest H cfg k.seed p0 aux)
    (h : hssSign H cfg msg sk cb aux = .ok o) (hr : o.result = some sig) :
    ∃ k p0 rest, RefKey.parse H.n sk = some k ∧ paramsOfBytes cfg H.n k.params = some (p0 :: rest) ∧
      sig = hssSigBytes H k.seed p0 rest k.counter msg := by
  obtain ⟨rest, hps, hsig⟩ := released_signature_layout_honest_aux_of_parse hK k p0 hk hst hh h hr
  exact ⟨k, p0, rest, hk, hps, hsig⟩

/-- The released signature has the layout for every buffer that can occur in the life of the key `(ps, seed)`: absent,
unmarked or MAC-rejected caller buffers and whatever `hssKeygen` / `hssSign` of this key wrote back, any number of
times. No hypothesis about MACs or cache contents. -/
theorem released_signature_layout_reachable_aux {H : HashFn} {cfg : Config} {msg sk : Bytes} {cb : Bytes → Bool}
    {aux : Option Bytes} {o : SignOutcome} {sig : Bytes} (hK : cfg.maxTreeHeight ≤ 30)
    (ps : List HssParam) (seed : Bytes) (p0 : HssParam) (htop : keygenTop H cfg ps = some p0)
    (hreach : Reachable H cfg ps seed p0 aux) (hkf : KeyFor H cfg seed p0 sk)
    (h : hssSign H cfg msg sk cb aux = .ok o) (hr : o.result = some sig) :
    ∃ k rest, RefKey.parse H.n sk = some k ∧ k.seed = seed ∧
      paramsOfBytes cfg H.n k.params = some (p0 :: rest) ∧
      sig = hssSigBytes H k.seed p0 rest k.counter msg :=
  released_signature_layout_honest_aux hK seed p0 hkf
    (Props.C10Life.reachable_honest H cfg hK ps seed p0 htop aux hreach) h hr

/-- the generated key with any counter value `c` in its 8 counter bytes and any reachable buffer - e.g. the buffer
written back by key generation itself -/
theorem released_signature_layout_after_keygen {H : HashFn} {cfg : Config} {msg : Bytes} {cb : Bytes → Bool}
    {aux : Option Bytes} {o : SignOutcome} {sig : Bytes} (hK : cfg.maxTreeHeight ≤ 30)
    (ps : List HssParam) (seed : Bytes) (auxK : Option Bytes) (p0 : HssParam) (ko : KeygenOutcome)
    (skb vk : Bytes) (c : Nat)
    (htop : keygenTop H cfg ps = some p0) (hseed : seed.length = H.n)
    (hkg : hssKeygen H cfg ps seed auxK = .ok ko) (hkr : ko.result = some (skb, vk))
    (hreach : Reachable H cfg ps seed p0 aux)
    (h : hssSign H cfg msg (Bytes.u64be c ++ skb.drop 8) cb aux = .ok o) (hr : o.result = some sig) :
    ∃ k rest, RefKey.parse H.n (Bytes.u64be c ++ skb.drop 8) = some k ∧ k.seed = seed ∧
      paramsOfBytes cfg H.n k.params = some (p0 :: rest) ∧
      sig = hssSigBytes H k.seed p0 rest k.counter msg :=
  released_signature_layout_reachable_aux hK ps seed p0 htop hreach
    (Props.C10Life.generated_key_keyFor H cfg ps seed auxK p0 ko skb vk c htop hseed hkg hkr).2 h hr

/-- `Props.C03Ids.session_releases` for sessions in which every call passes an aux buffer that is honest for the key:
such a session is the session of the same calls without buffers (`Lemmas.AuxLifecycle.session_honest_aux`). -/
theorem session_releases_honest_aux {H : HashFn} {cfg : Config} {k0 : RefKey} {p0 : HssParam}
    {rest : List HssParam} (hK : cfg.maxTreeHeight ≤ 30)
    (hp8 : k0.params.length = 8) (hseed : k0.seed.length = H.n)
    (hps : paramsOfBytes cfg H.n k0.params = some (p0 :: rest))
    (hc0 : k0.counter < Lemmas.capacity (heights p0 rest))
    (calls : List Call) (hhon : ∀ c ∈ calls, Honest H cfg k0.seed p0 c.aux) (skN : Bytes)
    (log : List (Bytes × Bytes))
    (h : session H cfg k0.bytes calls = .ok (skN, log)) :
    ∃ rels : List Release,
      log = rels.map (fun r => (({ k0 with counter := r.counter } : RefKey).bytes, r.sig)) ∧
      (rels.map (·.counter)).Pairwise (· < ·) ∧
      ∀ r ∈ rels, k0.counter ≤ r.counter ∧ r.counter < Lemmas.capacity (heights p0 rest) ∧
        (∃ c ∈ calls, c.msg = r.msg) ∧ r.sig = hssSigBytes H k0.seed p0 rest r.counter r.msg := by
  rw [session_honest_aux hK k0.seed p0 calls k0.bytes
    (keyFor_blob H cfg k0.seed p0 k0.params k0.counter hseed (by rw [hps]; rfl)) hhon] at h
  obtain ⟨rels, h1, h2, h3⟩ := Props.C03Ids.session_releases hp8 hseed hps hc0 _
    (fun c hc => by obtain ⟨c0, _, rfl⟩ := List.mem_map.1 hc; rfl) skN log h
  refine ⟨rels, h1, h2, fun r hr => ?_⟩
  obtain ⟨hlo, hhi, ⟨c, hc, hm⟩, hsig⟩ := h3 r hr
  obtain ⟨c0, hc0', rfl⟩ := List.mem_map.1 hc
  exact ⟨hlo, hhi, ⟨c0, hc0', hm⟩, hsig⟩

/-- No one-time key position signs two contents: `Props.C03Ids.no_position_signs_two_contents` for sessions in which
every call passes an aux buffer that is honest for the key. For any two released signatures, equal one-time key
positions at a level imply that the level signs the same content in both; at the bottom level the two releases are
the same release. -/
theorem no_position_signs_two_contents_honest_aux {H : HashFn} {cfg : Config} {k0 : RefKey} {p0 : HssParam}
    {rest : List HssParam} (hK : cfg.maxTreeHeight ≤ 30)
    (hp8 : k0.params.length = 8) (hseed : k0.seed.length = H.n)
    (hps : paramsOfBytes cfg H.n k0.params = some (p0 :: rest))
    (hc0 : k0.counter < Lemmas.capacity (heights p0 rest))
    (calls : List Call) (hhon : ∀ c ∈ calls, Honest H cfg k0.seed p0 c.aux) (skN : Bytes)
    (log : List (Bytes × Bytes))
    (h : session H cfg k0.bytes calls = .ok (skN, log)) :
    ∃ rels : List Release,
      log = rels.map (fun r => (({ k0 with counter := r.counter } : RefKey).bytes, r.sig)) ∧
      (∀ r ∈ rels, r.counter < Lemmas.capacity (heights p0 rest) ∧ (∃ c ∈ calls, c.msg = r.msg) ∧
        r.sig = hssSigBytes H k0.seed p0 rest r.counter r.msg) ∧
      ∀ (a b : Nat) (ra rb : Release), rels[a]? = some ra → rels[b]? = some rb →
        ∀ j, j < (p0 :: rest).length →
          pos (heights p0 rest) ra.counter j = pos (heights p0 rest) rb.counter j →
          leafAt (heights p0 rest) ra.counter j = leafAt (heights p0 rest) rb.counter j →
          SameContentAt H k0.seed p0 rest a b ra rb j := by
  obtain ⟨rels, h1, hpw, hall⟩ := session_releases_honest_aux hK hp8 hseed hps hc0 calls hhon skN log h
  exact ⟨rels, h1, Props.C03Ids.sameContentAt_of_releases hpw hall⟩

/-- No (tree identifier, leaf index) signs two contents: `Props.C03Ids.no_identifier_leaf_signs_two_contents` for
sessions in which every call passes an aux buffer that is honest for the key, under the same explicit hypothesis
`IdsDistinguishPositions`. -/
theorem no_identifier_leaf_signs_two_contents_honest_aux {H : HashFn} {cfg : Config} {k0 : RefKey}
    {p0 : HssParam} {rest : List HssParam} (hK : cfg.maxTreeHeight ≤ 30)
    (hp8 : k0.params.length = 8) (hseed : k0.seed.length = H.n)
    (hps : paramsOfBytes cfg H.n k0.params = some (p0 :: rest))
    (hc0 : k0.counter < Lemmas.capacity (heights p0 rest))
    (hid : IdsDistinguishPositions H k0.seed p0 rest)
    (calls : List Call) (hhon : ∀ c ∈ calls, Honest H cfg k0.seed p0 c.aux) (skN : Bytes)
    (log : List (Bytes × Bytes))
    (h : session H cfg k0.bytes calls = .ok (skN, log)) :
    ∃ rels : List Release,
      log = rels.map (fun r => (({ k0 with counter := r.counter } : RefKey).bytes, r.sig)) ∧
      (∀ r ∈ rels, r.counter < Lemmas.capacity (heights p0 rest) ∧ (∃ c ∈ calls, c.msg = r.msg) ∧
        r.sig = hssSigBytes H k0.seed p0 rest r.counter r.msg) ∧
      ∀ (a b : Nat) (ra rb : Release), rels[a]? = some ra → rels[b]? = some rb →
        ∀ j, j < (p0 :: rest).length →
          idAt H k0.seed p0 rest ra.counter j = idAt H k0.seed p0 rest rb.counter j →
          leafAt (heights p0 rest) ra.counter j = leafAt (heights p0 rest) rb.counter j →
          SameContentAt H k0.seed p0 rest a b ra rb j := by
  obtain ⟨rels, h1, hall, hpos⟩ :=
    no_position_signs_two_contents_honest_aux hK hp8 hseed hps hc0 calls hhon skN log h
  exact ⟨rels, h1, hall, Props.C03Ids.sameContentAt_of_identifiers hid hall hpos⟩

/-- `no_position_signs_two_contents_honest_aux` for sessions whose aux buffers are `Reachable` in the life of the key
`(ps, seed)` (caller buffers that are absent / unmarked / MAC-rejected, and whatever the library wrote back into
them): no hypothesis on buffer contents -/
theorem no_position_signs_two_contents_reachable_aux {H : HashFn} {cfg : Config} {k0 : RefKey} {p0 : HssParam}
    {rest : List HssParam} (hK : cfg.maxTreeHeight ≤ 30) (ps : List HssParam)
    (htop : keygenTop H cfg ps = some p0)
    (hp8 : k0.params.length = 8) (hseed : k0.seed.length = H.n)
    (hps : paramsOfBytes cfg H.n k0.params = some (p0 :: rest)) (hsum : (heights p0 rest).sum ≤ 63)
    (hc0 : k0.counter < leavesTotal (heights p0 rest))
    (calls : List Call) (hreach : ∀ c ∈ calls, Reachable H cfg ps k0.seed p0 c.aux) (skN : Bytes)
    (log : List (Bytes × Bytes))
    (h : session H cfg k0.bytes calls = .ok (skN, log)) :
    ∃ rels : List Release,
      log = rels.map (fun r => (({ k0 with counter := r.counter } : RefKey).bytes, r.sig)) ∧
      (∀ r ∈ rels, r.counter < leavesTotal (heights p0 rest) ∧ (∃ c ∈ calls, c.msg = r.msg) ∧
        r.sig = hssSigBytes H k0.seed p0 rest r.counter r.msg) ∧
      ∀ (a b : Nat) (ra rb : Release), rels[a]? = some ra → rels[b]? = some rb →
        ∀ j, j < (p0 :: rest).length →
          pos (heights p0 rest) ra.counter j = pos (heights p0 rest) rb.counter j →
          leafAt (heights p0 rest) ra.counter j = leafAt (heights p0 rest) rb.counter j →
          SameContentAt H k0.seed p0 rest a b ra rb j := by
  rw [← Props.C05Tall.capacity_le63 _ hsum] at hc0 ⊢
  exact no_position_signs_two_contents_honest_aux hK hp8 hseed hps hc0 calls
    (fun c hc => Props.C10Life.reachable_honest H cfg hK ps k0.seed p0 htop c.aux (hreach c hc)) skN log h

/-- `no_identifier_leaf_signs_two_contents_honest_aux` for sessions whose aux buffers are `Reachable` in the life of the key -/
theorem no_identifier_leaf_signs_two_contents_reachable_aux {H : HashFn} {cfg : Config} {k0 : RefKey}
    {p0 : HssParam} {rest : List HssParam} (hK : cfg.maxTreeHeight ≤ 30) (ps : List HssParam)
    (htop : keygenTop H cfg ps = some p0)
    (hp8 : k0.params.length = 8) (hseed : k0.seed.length = H.n)
    (hps : paramsOfBytes cfg H.n k0.params = some (p0 :: rest)) (hsum : (heights p0 rest).sum ≤ 63)
    (hc0 : k0.counter < leavesTotal (heights p0 rest))
    (hid : IdsDistinguishPositions H k0.seed p0 rest)
    (calls : List Call) (hreach : ∀ c ∈ calls, Reachable H cfg ps k0.seed p0 c.aux) (skN : Bytes)
    (log : List (Bytes × Bytes))
    (h : session H cfg k0.bytes calls = .ok (skN, log)) :
    ∃ rels : List Release,
      log = rels.map (fun r => (({ k0 with counter := r.counter } : RefKey).bytes, r.sig)) ∧
      (∀ r ∈ rels, r.counter < leavesTotal (heights p0 rest) ∧ (∃ c ∈ calls, c.msg = r.msg) ∧
        r.sig = hssSigBytes H k0.seed p0 rest r.counter r.msg) ∧
      ∀ (a b : Nat) (ra rb : Release), rels[a]? = some ra → rels[b]? = some rb →
        ∀ j, j < (p0 :: rest).length →
          idAt H k0.seed p0 rest ra.counter j = idAt H k0.seed p0 rest rb.counter j →
          leafAt (heights p0 rest) ra.counter j = leafAt (heights p0 rest) rb.counter j →
          SameContentAt H k0.seed p0 rest a b ra rb j := by
  rw [← Props.C05Tall.capacity_le63 _ hsum] at hc0 ⊢
  exact no_identifier_leaf_signs_two_contents_honest_aux hK hp8 hseed hps hc0 hid calls
    (fun c hc => Props.C10Life.reachable_honest H cfg hK ps k0.seed p0 htop c.aux (hreach c hc)) skN log h

/-- the aux-free session theorems are the special case `aux = none` (absent buffers are honest) -/
example {H : HashFn} {cfg : Config} {k0 : RefKey} {p0 : HssParam} (calls : List Call)
    (hnoaux : ∀ c ∈ calls, c.aux = none) : ∀ c ∈ calls, Honest H cfg k0.seed p0 c.aux :=
  fun c hc => by rw [hnoaux c hc]; exact honest_none H cfg k0.seed p0

end Props.C07Aux

#print axioms Props.C07Aux.released_signature_layout_honest_aux
#print axioms Props.C07Aux.released_signature_layout_honest_aux_parsed
#print axioms Props.C07Aux.released_signature_layout_honest_aux_of_parse
#print axioms Props.C07Aux.released_signature_layout_reachable_aux
#print axioms Props.C07Aux.released_signature_layout_after_keygen
#print axioms Props.C07Aux.released_signature_spec_honest_aux
#print axioms Props.C07Aux.session_releases_honest_aux
#print axioms Props.C07Aux.no_position_signs_two_contents_honest_aux
#print axioms Props.C07Aux.no_identifier_leaf_signs_two_contents_honest_aux
#print axioms Props.C07Aux.no_position_signs_two_contents_reachable_aux
#print axioms Props.C07Aux.no_identifier_leaf_signs_two_contents_reachable_aux
