/-
C16 - secret-bearing values are wiped when dropped or exhausted.
-/
import HbsLms.Impl.Zeroize
import HbsLms.Impl.Hss

namespace Props.C16

open Impl Impl.Zeroize

/-- One kernel evaluation for all verdicts of this file: the closure `owners structDecls` is what is dear to evaluate,
and inside one evaluation the kernel computes it once. -/
theorem table_verdicts :
    SecretsCovered Generated.structDecls = true ∧ ZeroizeCovered Generated.structDecls = true ∧
    (owners Generated.structDecls).length ≥ 5 ∧
    ("Seed" ∈ ownerNames Generated.structDecls ∧ "LmotsPrivateKey" ∈ ownerNames Generated.structDecls ∧
    "LmsPrivateKey" ∈ ownerNames Generated.structDecls ∧ "ReferenceImplPrivateKey" ∈ ownerNames Generated.structDecls ∧
    "SeedAndLmsTreeIdentifier" ∈ ownerNames Generated.structDecls) := by decide +kernel

/-- Kernel-checked verdict on the declaration table regenerated from the current sources: every struct that owns
seed bytes, a per-tree seed or chain values (directly, or through fields it owns by value) is wiped when it goes
out of scope. What the check means for values is `Props.C16Sem.S1_secretsCovered_sound`. -/
theorem secrets_covered_on_drop : SecretsCovered Generated.structDecls = true := table_verdicts.1

/-- ... and every such struct that is wiped by its own derive clears all of its secret fields when `zeroize()`d. -/
theorem secrets_covered_by_zeroize : ZeroizeCovered Generated.structDecls = true := table_verdicts.2.1

/-- the secret-bearing structs the closure finds (so that the verdict above is not about an empty set) -/
theorem secret_bearing_structs_found :
    (owners Generated.structDecls).length ≥ 5 := table_verdicts.2.2.1

/-- The exhausted private key handed to the callback contains no seed bytes: it is `0^8 ‖ ff^8 ‖ 0^n` for every
seed the key had. -/
theorem wiped_key_has_no_seed_bytes (n : Nat) :
    (RefKey.wiped n).bytes = Bytes.zeros 8 ++ List.replicate 8 0xff ++ Bytes.zeros n := by
  simp [RefKey.wiped, RefKey.bytes, Bytes.u64be, Bytes.be, Bytes.zeros, Generated.REF_IMPL_MAX_ALLOWED_HSS_LEVELS,
    Generated.PARAM_SET_END]

/-- Using the last leaf yields the wiped key whatever the seed was. -/
theorem last_leaf_wipes (k : RefKey) (n : Nat) (hs : List Nat) (h : incrementCounter hs k.counter = none) :
    (k.increment n hs).bytes = Bytes.zeros 8 ++ List.replicate 8 0xff ++ Bytes.zeros n := by
  unfold RefKey.increment
  rw [h]
  exact wiped_key_has_no_seed_bytes n

-- the closure contains the five types the property names
example : "Seed" ∈ ownerNames Generated.structDecls ∧ "LmotsPrivateKey" ∈ ownerNames Generated.structDecls ∧
    "LmsPrivateKey" ∈ ownerNames Generated.structDecls ∧ "ReferenceImplPrivateKey" ∈ ownerNames Generated.structDecls ∧
    "SeedAndLmsTreeIdentifier" ∈ ownerNames Generated.structDecls := table_verdicts.2.2.2

end Props.C16

#print axioms Props.C16.secrets_covered_on_drop
#print axioms Props.C16.secrets_covered_by_zeroize
#print axioms Props.C16.secret_bearing_structs_found
#print axioms Props.C16.wiped_key_has_no_seed_bytes
#print axioms Props.C16.last_leaf_wipes
