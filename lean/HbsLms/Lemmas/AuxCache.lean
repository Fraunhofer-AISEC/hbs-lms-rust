/-
The auxiliary buffer as a cache of nodes of the top tree (property C10). Invariant `CacheTrue`: every non-zero slot of a
cached level holds the true tree node. A computation that threads the cache (`Through`) returns through every such cache
what it returns without one, and keeps the invariant and the frame (level word, set of cached levels): `getTreeElement`,
`treeNode`, the path loop of `lmsSign`, hence `lmsSign` and `expandPrivateKey`. The view of a fresh buffer satisfies the
invariant.
-/
import HbsLms.Lemmas.NormalForm
import HbsLms.Lemmas.AuxSizes
import HbsLms.Lemmas.CompleteTree

open Generated Impl

namespace Lemmas.AuxCache

/-- Node `r` of the tree of `k` as the model computes it without a cache: the RFC's `T[r]` for `1 ≤ r < 2 ^ (h + 1)`
(`T_eq_completeT`, `KeygenRefine.T_eq`), a leaf-shaped hash beyond, and `[]` at `r = 0` when `h = 0` (`T_length`). -/
def T (H : HashFn) (k : LmsKey) (r : Nat) : Bytes := (treeNode H k r none).1

/-- an all-zero slot is an empty one, as for `hss_extract_aux_data`; any other holds the true node -/
def CacheTrue (H : HashFn) (k : LmsKey) (e : ExpAux) : Prop :=
  ∀ level layer, e.layers.getD level none = some layer →
    layer.length = H.n * 2 ^ level ∧
    ∀ j, j < 2 ^ level →
      Bytes.allZero (Bytes.slice layer (j * H.n) H.n) = true ∨
      Bytes.slice layer (j * H.n) H.n = T H k (2 ^ level + j)

def AuxGood (H : HashFn) (k : LmsKey) (a : Option ExpAux) : Prop :=
  ∀ e, a = some e → CacheTrue H k e

theorem auxGood_none (H : HashFn) (k : LmsKey) : AuxGood H k none := by
  intro e h; cases h

theorem auxGood_some {H : HashFn} {k : LmsKey} {e : ExpAux} (h : CacheTrue H k e) : AuxGood H k (some e) := by
  intro e' h'; cases h'; exact h

theorem T_eq_completeT (H : HashFn) (k : LmsKey) {r j : Nat} (hj : j ≤ k.lms.h) (hlo : 2 ^ j ≤ r) (hhi : r < 2 ^ (j + 1)) :
    T H k r = Complete.T H k (k.lms.h - j) r := by
  unfold T
  rw [Complete.treeNode_none H k r j hj hlo hhi]

theorem T_leaf (H : HashFn) (k : LmsKey) {r : Nat} (hlo : 2 ^ k.lms.h ≤ r) (hhi : r < 2 ^ (k.lms.h + 1)) :
    T H k r = leafNode H k r := by
  rw [T_eq_completeT H k (Nat.le_refl _) hlo hhi, Nat.sub_self]
  rfl

theorem T_node (H : HashFn) (k : LmsKey) {r j : Nat} (hj : j < k.lms.h) (hlo : 2 ^ j ≤ r) (hhi : r < 2 ^ (j + 1)) :
    T H k r = H.h (k.I ++ Bytes.u32be r ++ D_INTR ++ T H k (2 * r) ++ T H k (2 * r + 1)) := by
  have h1 : 2 ^ (j + 1) = 2 * 2 ^ j := by rw [Nat.pow_succ]; omega
  have h2 : 2 ^ (j + 1 + 1) = 2 * 2 ^ (j + 1) := by rw [Nat.pow_succ _ (j + 1)]; omega
  rw [T_eq_completeT H k (Nat.le_of_lt hj) hlo hhi, T_eq_completeT H k (j := j + 1) hj (by omega) (by omega),
    T_eq_completeT H k (j := j + 1) hj (by omega) (by omega)]
  have : k.lms.h - j = (k.lms.h - (j + 1)) + 1 := by omega
  rw [this]
  rfl

/-- `getTreeElement.eq_def` with projections for the pattern `let`s -/
theorem getTreeElement_unfold (H : HashFn) (k : LmsKey) (fuel r : Nat) (aux : Option ExpAux) :
    getTreeElement H k fuel r aux =
      match aux.bind (fun e => hss_extract_aux_data H.n e r) with
      | some v => (v, aux)
      | none =>
        let p : Bytes × Option ExpAux :=
          if r ≥ 2 ^ k.lms.h then (leafNode H k r, aux)
          else match fuel with
            | 0 => ([], aux)
            | f+1 =>
              let p1 := getTreeElement H k f (2 * r) aux
              let p2 := getTreeElement H k f (2 * r + 1) p1.2
              (H.h (k.I ++ Bytes.u32be r ++ D_INTR ++ p1.1 ++ p2.1), p2.2)
        (p.1, p.2.map fun e => hss_save_aux_data H.n e r p.1) := by
  rw [getTreeElement.eq_def]
  rfl

/-- also outside the tree, but not for `r = 0`: for `h = 0` the model returns `[]` there -/
theorem T_length (H : HashFn) (k : LmsKey) {r : Nat} (hr : 0 < r) : (T H k r).length = H.n := by
  unfold T treeNode
  rw [getTreeElement_unfold]
  dsimp only [Option.bind_none]
  by_cases hge : r ≥ 2 ^ k.lms.h
  · rw [if_pos hge]
    exact H.len_h _
  · rw [if_neg hge]
    -- below the leaves `log2 r < h`, so there is fuel for one step, and that step ends with a hash
    have hlog : log2 r < k.lms.h := (Nat.log2_lt (by omega)).2 (by omega)
    obtain ⟨f, hf⟩ : ∃ f, k.lms.h - log2 r = f + 1 := ⟨k.lms.h - log2 r - 1, by omega⟩
    rw [hf]
    exact H.len_h _

/-- what the tree code never changes: the level word (bytes and value) and the set of cached levels -/
def frame (e : ExpAux) : Bytes × Nat × List Bool := (e.head, e.level, e.layers.map Option.isSome)

theorem frame_head {e e' : ExpAux} (h : frame e' = frame e) : e'.head = e.head := congrArg (·.1) h

theorem frame_level {e e' : ExpAux} (h : frame e' = frame e) : e'.level = e.level := congrArg (·.2.1) h

theorem frame_cached {e e' : ExpAux} (h : frame e' = frame e) :
    e'.layers.map Option.isSome = e.layers.map Option.isSome := congrArg (·.2.2) h

def oframe (a : Option ExpAux) : Option (Bytes × Nat × List Bool) := a.map frame

theorem oframe_some {a : Option ExpAux} {e : ExpAux} (h : oframe a = oframe (some e)) :
    ∃ e', a = some e' ∧ frame e' = frame e := by
  cases a with
  | none => cases h
  | some e' => exact ⟨e', rfl, Option.some.inj h⟩

theorem auxGood_of_oframe_some {H : HashFn} {k : LmsKey} {a : Option ExpAux} {e : ExpAux} (g : AuxGood H k a)
    (f : oframe a = oframe (some e)) : ∃ e', a = some e' ∧ CacheTrue H k e' := by
  obtain ⟨e', rfl, _⟩ := oframe_some f
  exact ⟨e', rfl, g e' rfl⟩

theorem frame_hss_save_aux_data (n : Nat) (e : ExpAux) (r : Nat) (v : Bytes) : frame (hss_save_aux_data n e r v) = frame e := by
  unfold hss_save_aux_data
  dsimp only
  split
  · rfl
  · rename_i layer hL
    have hq := getD_some_getElem? hL
    simp only [frame, Prod.mk.injEq, true_and]
    apply List.ext_getElem?
    intro i
    simp only [List.getElem?_map, List.getElem?_set]
    split
    · rename_i hi
      subst hi
      rw [hq]
      have hlt : log2 r < e.layers.length := (List.getElem?_eq_some_iff.1 hq).1
      simp [hlt]
    · rfl

theorem oframe_map_hss_save_aux_data (n : Nat) (a : Option ExpAux) (r : Nat) (v : Bytes) :
    oframe (a.map fun e => hss_save_aux_data n e r v) = oframe a := by
  cases a with
  | none => rfl
  | some e => simp [oframe, frame_hss_save_aux_data]

theorem oframe_getTreeElement (H : HashFn) (k : LmsKey) (fuel : Nat) :
    ∀ (r : Nat) (a : Option ExpAux), oframe (getTreeElement H k fuel r a).2 = oframe a := by
  induction fuel with
  | zero =>
    intro r a
    rw [getTreeElement_unfold]
    split
    · rfl
    · dsimp only
      rw [oframe_map_hss_save_aux_data]
      split <;> rfl
  | succ f ih =>
    intro r a
    rw [getTreeElement_unfold]
    split
    · rfl
    · dsimp only
      rw [oframe_map_hss_save_aux_data]
      split
      · rfl
      · dsimp only
        rw [ih, ih]

theorem oframe_treeNode (H : HashFn) (k : LmsKey) (r : Nat) (a : Option ExpAux) :
    oframe (treeNode H k r a).2 = oframe a := oframe_getTreeElement H k _ r a

theorem hss_extract_aux_data_sound {H : HashFn} {k : LmsKey} {e : ExpAux} (hc : CacheTrue H k e) {r l : Nat}
    (h1 : 2 ^ l ≤ r) (h2 : r < 2 ^ (l + 1)) {v : Bytes} (hv : hss_extract_aux_data H.n e r = some v) :
    v = T H k r := by
  unfold hss_extract_aux_data at hv
  rw [Complete.log2_of_level h1 h2] at hv
  cases hL : e.layers.getD l none with
  | none => dsimp only at hv; rw [hL] at hv; cases hv
  | some layer =>
    simp only [hL] at hv
    obtain ⟨_, hs⟩ := hc l layer hL
    have hj : r - 2 ^ l < 2 ^ l := by rw [Nat.pow_succ] at h2; omega
    split at hv
    · cases hv
    · rename_i hz
      cases hv
      rcases hs (r - 2 ^ l) hj with h | h
      · exact absurd h hz
      · rw [h]; congr 1; omega

theorem hss_save_aux_data_preserves {H : HashFn} {k : LmsKey} {e : ExpAux} (hc : CacheTrue H k e) {r l : Nat}
    (h1 : 2 ^ l ≤ r) (h2 : r < 2 ^ (l + 1)) {v : Bytes} (hv : v = T H k r) :
    CacheTrue H k (hss_save_aux_data H.n e r v) := by
  have hlen : v.length = H.n := hv ▸ T_length H k (Nat.lt_of_lt_of_le (Nat.two_pow_pos l) h1)
  unfold hss_save_aux_data
  rw [Complete.log2_of_level h1 h2]
  cases hL : e.layers.getD l none with
  | none => simp only [hL]; exact hc
  | some layer =>
    simp only [hL]
    obtain ⟨hlayer, hs⟩ := hc l layer hL
    have hj : r - 2 ^ l < 2 ^ l := by rw [Nat.pow_succ] at h2; omega
    have slot_le {i j : Nat} (h : i < j) : i * H.n + H.n ≤ j * H.n :=
      Nat.succ_mul i H.n ▸ Nat.mul_le_mul_right H.n h
    have hfit : (r - 2 ^ l) * H.n + v.length ≤ layer.length := by
      rw [hlen, hlayer, Nat.mul_comm H.n]
      exact slot_le hj
    have hlt : l < e.layers.length := (List.getElem?_eq_some_iff.1 (getD_some_getElem? hL)).1
    intro level layer' hget
    simp only [List.getD_eq_getElem?_getD, List.getElem?_set] at hget
    by_cases hlv : l = level
    · subst hlv
      simp only [if_true, hlt] at hget
      simp only [Option.getD_some, Option.some.injEq] at hget
      subst hget
      refine ⟨by rw [Bytes.patch_length hfit]; exact hlayer, ?_⟩
      intro j hjl
      by_cases hjj : j = r - 2 ^ l
      · right
        subst hjj
        have := Bytes.slice_patch_same layer ((r - 2 ^ l) * H.n) v hfit
        rw [hlen] at this
        rw [this, hv]; congr 1; omega
      · have hdis : j * H.n + H.n ≤ (r - 2 ^ l) * H.n ∨ (r - 2 ^ l) * H.n + v.length ≤ j * H.n := by
          rw [hlen]
          rcases Nat.lt_or_gt_of_ne hjj with h | h
          · exact Or.inl (slot_le h)
          · exact Or.inr (slot_le h)
        rw [Bytes.slice_patch_disjoint _ _ _ _ _ hfit hdis]
        exact hs j hjl
    · simp only [hlv, if_false] at hget
      rw [← List.getD_eq_getElem?_getD] at hget
      exact hc level layer' hget

/-- `f` threads the cache: from every cache that is `AuxGood` it returns `v`, leaves a cache that is `AuxGood` and keeps
the frame. `v` is in particular what `f` returns without a cache (`auxGood_none`). -/
def Through (H : HashFn) (k : LmsKey) {α : Type} (f : Option ExpAux → α × Option ExpAux) (v : α) : Prop :=
  ∀ a, AuxGood H k a → (f a).1 = v ∧ AuxGood H k (f a).2 ∧ oframe (f a).2 = oframe a

/-- the step of `getTreeElement` that touches the cache: look the node up, else compute it with `f` and store it -/
theorem Through.cached {H : HashFn} {k : LmsKey} {r l : Nat} (h1 : 2 ^ l ≤ r) (h2 : r < 2 ^ (l + 1))
    {f : Option ExpAux → Bytes × Option ExpAux} (hf : Through H k f (T H k r)) :
    Through H k (fun a => match a.bind (fun e => hss_extract_aux_data H.n e r) with
      | some v => (v, a)
      | none => ((f a).1, (f a).2.map fun e => hss_save_aux_data H.n e r (f a).1)) (T H k r) := by
  intro a ha
  dsimp only
  split
  · next v hx =>
    obtain ⟨e, rfl, he⟩ := Option.bind_eq_some_iff.1 hx
    exact ⟨hss_extract_aux_data_sound (ha e rfl) h1 h2 he, ha, rfl⟩
  · obtain ⟨hv, hg, hfr⟩ := hf a ha
    refine ⟨hv, ?_, by rw [oframe_map_hss_save_aux_data, hfr]⟩
    intro e' he'
    obtain ⟨e, he, rfl⟩ := Option.map_eq_some_iff.1 he'
    exact hss_save_aux_data_preserves (hg e he) h1 h2 hv

theorem Through.seq {H : HashFn} {k : LmsKey} {α β γ : Type} {f : Option ExpAux → α × Option ExpAux}
    {g : Option ExpAux → β × Option ExpAux} {x : α} {y : β} (hf : Through H k f x) (hg : Through H k g y)
    (c : α → β → γ) : Through H k (fun a => (c (f a).1 (g (f a).2).1, (g (f a).2).2)) (c x y) := by
  intro a ha
  obtain ⟨h1, g1, f1⟩ := hf a ha
  obtain ⟨h2, g2, f2⟩ := hg _ g1
  exact ⟨by dsimp only; rw [h1, h2], g2, f2.trans f1⟩

/-- `r` is a node of level `j` (the root is level 0) and `fuel` is the number of levels below it -/
theorem through_getTreeElement {H : HashFn} {k : LmsKey} (fuel : Nat) :
    ∀ (r j : Nat), j + fuel = k.lms.h → 2 ^ j ≤ r → r < 2 ^ (j + 1) →
      Through H k (getTreeElement H k fuel r) (T H k r) := by
  induction fuel with
  | zero =>
    intro r j hj h1 h2
    have hr : r ≥ 2 ^ k.lms.h := by rw [← hj]; exact h1
    have hleaf : Through H k (fun a => (leafNode H k r, a)) (T H k r) :=
      fun a ha => ⟨(T_leaf H k hr (by rw [← hj]; exact h2)).symm, ha, rfl⟩
    have := Through.cached h1 h2 hleaf
    intro a ha
    rw [getTreeElement_unfold]
    simp only [hr, if_true]
    exact this a ha
  | succ f ih =>
    intro r j hj h1 h2
    have hlt : ¬ r ≥ 2 ^ k.lms.h := by
      have := Nat.pow_le_pow_right (n := 2) (by omega) (show j + 1 ≤ k.lms.h by omega)
      omega
    have hp1 : 2 ^ (j + 1) = 2 * 2 ^ j := by rw [Nat.pow_succ]; omega
    have hp2 : 2 ^ (j + 1 + 1) = 2 * 2 ^ (j + 1) := by rw [Nat.pow_succ _ (j + 1)]; omega
    have hl := ih (2 * r) (j + 1) (by omega) (by omega) (by omega)
    have hr := ih (2 * r + 1) (j + 1) (by omega) (by omega) (by omega)
    have hn := Through.seq hl hr fun l rr => H.h (k.I ++ Bytes.u32be r ++ D_INTR ++ l ++ rr)
    rw [← T_node H k (by omega) h1 h2] at hn
    have := Through.cached h1 h2 hn
    intro a ha
    rw [getTreeElement_unfold]
    simp only [hlt, if_false]
    exact this a ha

theorem through_treeNode {H : HashFn} {k : LmsKey} {r j : Nat} (hj : j ≤ k.lms.h) (hlo : 2 ^ j ≤ r)
    (hhi : r < 2 ^ (j + 1)) : Through H k (treeNode H k r) (T H k r) := by
  unfold treeNode
  rw [Complete.log2_of_level hlo hhi]
  exact through_getTreeElement _ r j (by omega) hlo hhi

theorem through_root (H : HashFn) (k : LmsKey) : Through H k (treeNode H k 1) (T H k 1) :=
  through_treeNode (Nat.zero_le _) (by simp) (by simp)

/-- the loop of `hss_expand_aux_data` that cuts the buffer into levels -/
def splitLayers (sizes : List Nat) (acc : List (Option Bytes) × Bytes) : List (Option Bytes) × Bytes :=
  sizes.foldl (fun (acc : List (Option Bytes) × Bytes) sz =>
      if sz == 0 then (acc.1 ++ [none], acc.2) else (acc.1 ++ [some (acc.2.take sz)], acc.2.drop sz)) acc

/-- What `hss_expand_aux_data H cfg aux seed = some e` says (`hss_expand_aux_data_some`, and back
`hss_expand_aux_data_of_viewOf`): the buffer is marked, its first four bytes are the level word, and the layers are cut out
of the bytes behind it by the sizes that word announces. Length and MAC are checked only when a seed is given. -/
structure ViewOf (H : HashFn) (cfg : Config) (aux : Bytes) (seed : Option Bytes) (e : ExpAux) : Prop where
  used : hss_is_aux_data_used aux = true
  head : readAt aux 4 0 = some e.head
  level : e.level = e.head.toNat
  layers : e.layers = (splitLayers (auxSizes H cfg e.head.toNat) ([], aux.drop 4)).1
  hmac : e.hmac = (splitLayers (auxSizes H cfg e.head.toNat) ([], aux.drop 4)).2
  checked : ∀ s, seed = some s → auxTotal H cfg e.level ≤ aux.length ∧
    auxHmac H (auxSeedDerive H s) (aux.take (auxTotal H cfg e.level)) = aux.drop (auxTotal H cfg e.level)

theorem hss_expand_aux_data_some {H : HashFn} {cfg : Config} {aux : Bytes} {seed : Option Bytes} {e : ExpAux}
    (h : hss_expand_aux_data H cfg aux seed = some e) : ViewOf H cfg aux seed e := by
  unfold hss_expand_aux_data at h
  cases hu : hss_is_aux_data_used aux with
  | false => rw [hu] at h; cases h
  | true =>
    simp only [hu, Bool.not_true, Bool.false_eq_true, if_false] at h
    cases hr : readAt aux 4 0 with
    | none => rw [hr] at h; cases h
    | some lw =>
      simp only [hr, Option.bind_eq_bind, Option.bind_some] at h
      cases seed with
      | none =>
        cases h
        exact ⟨hu, hr, rfl, rfl, rfl, nofun⟩
      | some s =>
        simp only [] at h
        -- the two early exits: buffer shorter than the level word announces, MAC mismatch
        split at h
        · cases h
        · rename_i h1
          split at h
          · cases h
          · rename_i h2
            cases h
            refine ⟨hu, hr, rfl, rfl, rfl, fun s' hs' => ?_⟩
            cases hs'
            simp only [bne_iff_ne, ne_eq, Decidable.not_not] at h2
            exact ⟨Nat.le_of_not_gt h1, h2⟩

theorem hss_expand_aux_data_of_viewOf {H : HashFn} {cfg : Config} {aux : Bytes} {seed : Option Bytes} {e : ExpAux}
    (h : ViewOf H cfg aux seed e) : hss_expand_aux_data H cfg aux seed = some e := by
  obtain ⟨head, level, layers, hmac⟩ := e
  obtain ⟨hu, hlw, hlevel, hlayers, hhmac, hc⟩ := h
  dsimp only at hlw hlevel hlayers hhmac hc
  subst hlevel hlayers hhmac
  unfold hss_expand_aux_data
  simp only [hu, Bool.not_true, Bool.false_eq_true, if_false, hlw, Option.bind_eq_bind, Option.bind_some]
  cases seed with
  | none => rfl
  | some s =>
    obtain ⟨hlen, hmac⟩ := hc s rfl
    simp only [auxTotal, auxSizes] at hlen hmac
    simp only [if_neg (Nat.not_lt.2 hlen), hmac, bne_self_eq_false]
    rfl

theorem hss_expand_aux_data_accepts {H : HashFn} {cfg : Config} {aux s lw : Bytes}
    (hu : hss_is_aux_data_used aux = true) (hlw : readAt aux 4 0 = some lw)
    (hlen : auxTotal H cfg lw.toNat ≤ aux.length)
    (hmac : auxHmac H (auxSeedDerive H s) (aux.take (auxTotal H cfg lw.toNat)) = aux.drop (auxTotal H cfg lw.toNat)) :
    (hss_expand_aux_data H cfg aux (some s)).isSome = true := by
  have hv : ViewOf H cfg aux (some s) ⟨lw, lw.toNat, (splitLayers (auxSizes H cfg lw.toNat) ([], aux.drop 4)).1,
      (splitLayers (auxSizes H cfg lw.toNat) ([], aux.drop 4)).2⟩ :=
    ⟨hu, hlw, rfl, rfl, rfl, fun s' hs => by cases hs; exact ⟨hlen, hmac⟩⟩
  rw [hss_expand_aux_data_of_viewOf hv]
  rfl

/-- `splitLayers` without accumulator (`splitLayers_eq`) -/
def layersOf : List Nat → Bytes → List (Option Bytes)
  | [], _ => []
  | sz :: t, rest => if sz == 0 then none :: layersOf t rest else some (rest.take sz) :: layersOf t (rest.drop sz)

def restOf : List Nat → Bytes → Bytes
  | [], rest => rest
  | sz :: t, rest => if sz == 0 then restOf t rest else restOf t (rest.drop sz)

theorem splitLayers_eq (sizes : List Nat) (acc : List (Option Bytes)) (rest : Bytes) :
    splitLayers sizes (acc, rest) = (acc ++ layersOf sizes rest, restOf sizes rest) := by
  induction sizes generalizing acc rest with
  | nil => simp [splitLayers, layersOf, restOf]
  | cons sz t ih =>
    unfold splitLayers at ih ⊢
    rw [List.foldl_cons]
    by_cases hz : (sz == 0) = true
    · simp only [hz, if_true, ih, layersOf, restOf]; simp
    · simp only [hz, ih, layersOf, restOf]; simp

/-- entry `i` of `layersOf sizes rest`, if there is one: `sizes[i]` is not zero, the bytes of the entry come from `rest`,
and the entry has that size provided `rest` is long enough for all of `sizes` -/
theorem layersOf_spec (sizes : List Nat) (rest : Bytes) (i : Nat) (layer : Bytes)
    (h : (layersOf sizes rest)[i]? = some (some layer)) :
    ∃ sz, sizes[i]? = some sz ∧ sz ≠ 0 ∧ (∀ x ∈ layer, x ∈ rest) ∧ (sizes.sum ≤ rest.length → layer.length = sz) := by
  induction sizes generalizing rest i with
  | nil => simp [layersOf] at h
  | cons sz t ih =>
    unfold layersOf at h
    by_cases hz : (sz == 0) = true
    · simp only [hz, if_true] at h
      have hz' : sz = 0 := by simpa using hz
      cases i with
      | zero => simp at h
      | succ i =>
        simp only [List.getElem?_cons_succ] at h ⊢
        obtain ⟨s, h1, h2, h3, h4⟩ := ih rest i h
        exact ⟨s, h1, h2, h3, fun hs => h4 (by rw [List.sum_cons, hz', Nat.zero_add] at hs; exact hs)⟩
    · simp only [hz, Bool.false_eq_true, if_false] at h
      have hz' : sz ≠ 0 := by simpa using hz
      cases i with
      | zero =>
        simp only [List.getElem?_cons_zero, Option.some.injEq] at h
        subst h
        refine ⟨sz, by simp, hz', fun x hx => List.mem_of_mem_take hx, fun hs => ?_⟩
        rw [List.sum_cons] at hs
        rw [List.length_take]
        omega
      | succ i =>
        simp only [List.getElem?_cons_succ] at h ⊢
        obtain ⟨s, h1, h2, h3, h4⟩ := ih (rest.drop sz) i h
        refine ⟨s, h1, h2, fun x hx => List.mem_of_mem_drop (h3 x hx), fun hs => h4 ?_⟩
        rw [List.sum_cons] at hs
        rw [List.length_drop]
        omega

theorem auxSizes_getElem? (H : HashFn) (cfg : Config) (level i sz : Nat)
    (h : (auxSizes H cfg level)[i]? = some sz) (hz : sz ≠ 0) : sz = H.n * 2 ^ i := by
  rw [auxSizes_eq_map, List.getElem?_map] at h
  obtain ⟨j, hj, rfl⟩ := Option.map_eq_some_iff.1 h
  obtain ⟨_, rfl⟩ := List.getElem?_eq_some_iff.1 hj
  rw [List.getElem_range, lvSize_testBit] at hz ⊢
  by_cases hb : level.testBit i = true
  · rw [if_pos hb]
  · rw [if_neg hb] at hz
    exact absurd rfl hz

theorem hss_store_aux_marker_drop4 (b : Bytes) (level : Nat) : (hss_store_aux_marker b level).drop 4 = b.drop 4 := by
  have key : ∀ v : Bytes, v.length ≤ 4 → (Bytes.patch b 0 v).drop 4 = b.drop 4 := by
    intro v hv
    unfold Bytes.patch
    rw [List.take_zero, List.nil_append, Nat.zero_add, List.drop_append, List.drop_eq_nil_of_le hv, List.nil_append,
      List.drop_drop]
    congr 1; omega
  unfold hss_store_aux_marker
  split
  · exact key _ (by simp)
  · exact key _ (by rw [Bytes.u32be_length]; omega)

theorem hss_store_aux_marker_length {b : Bytes} (level : Nat) (hL : 4 ≤ b.length) :
    (hss_store_aux_marker b level).length = b.length := by
  unfold hss_store_aux_marker
  split
  · exact Bytes.patch_length (by simp only [AUX_DATA_MARKER, List.length_singleton]; omega)
  · exact Bytes.patch_length (by rw [Bytes.u32be_length]; omega)

/-- A cached level of a view consists of bytes of the buffer. Its length is what `CacheTrue` asks for only if the buffer
is as long as the level word announces: `hss_expand_aux_data` checks that when it is given a seed, not otherwise. -/
theorem hss_expand_aux_data_layer {H : HashFn} {cfg : Config} {aux : Bytes} {seed : Option Bytes} {e : ExpAux}
    (h : hss_expand_aux_data H cfg aux seed = some e) {lv : Nat} {layer : Bytes}
    (hl : e.layers.getD lv none = some layer) :
    (∀ x ∈ layer, x ∈ aux.drop 4) ∧ (auxTotal H cfg e.level ≤ aux.length → layer.length = H.n * 2 ^ lv) := by
  have he := hss_expand_aux_data_some h
  have hq := getD_some_getElem? hl
  rw [he.layers, splitLayers_eq, List.nil_append] at hq
  obtain ⟨sz, h1, h2, h3, h4⟩ := layersOf_spec _ _ _ _ hq
  refine ⟨h3, fun hfit => ?_⟩
  rw [← auxSizes_getElem? H cfg _ _ _ h1 h2]
  apply h4
  rw [he.level, auxTotal_eq_sum] at hfit
  rw [List.length_drop]
  omega

theorem hss_expand_aux_data_zeros_layers (H : HashFn) (cfg : Config) (L level : Nat) (e : ExpAux)
    (h : hss_expand_aux_data H cfg (hss_store_aux_marker (Bytes.zeros L) level) none = some e) :
    ∀ lv layer, e.layers.getD lv none = some layer → ∀ x ∈ layer, x = 0 :=
  fun _ _ hl x hx =>
    (List.mem_replicate.1
      (List.mem_of_mem_drop (hss_store_aux_marker_drop4 _ _ ▸ (hss_expand_aux_data_layer h hl).1 x hx))).2

theorem hss_expand_aux_data_zeros_cacheTrue (H : HashFn) (cfg : Config) (k : LmsKey) (L level : Nat) (e : ExpAux)
    (h : hss_expand_aux_data H cfg (hss_store_aux_marker (Bytes.zeros L) level) none = some e)
    (hfit : auxTotal H cfg e.level ≤ L) : CacheTrue H k e := by
  have h4 : 4 ≤ (Bytes.zeros L).length := by rw [Bytes.zeros_length]; unfold auxTotal at hfit; omega
  intro lv layer hl
  refine ⟨(hss_expand_aux_data_layer h hl).2 ?_, fun j _ => Or.inl (List.all_eq_true.2 fun x hx => ?_)⟩
  · rw [hss_store_aux_marker_length level h4, Bytes.zeros_length]; exact hfit
  · simp [hss_expand_aux_data_zeros_layers H cfg L level e h lv layer hl x
      (List.mem_of_mem_drop (List.mem_of_mem_take hx))]

/-- what `getExpandedAuxData` makes of an unmarked buffer (`marked` there) -/
def freshAux (n h0 : Nat) (buf : Bytes) : Bytes :=
  hss_store_aux_marker (Bytes.zeros (min (hss_get_aux_data_len n h0 buf.length) buf.length))
    (hss_optimal_aux_level n h0 (hss_get_aux_data_len n h0 buf.length)).1

theorem getExpandedAuxData_used (H : HashFn) (cfg : Config) (buf seed : Bytes) (h0 : Nat)
    (hu : hss_is_aux_data_used buf = true) :
    getExpandedAuxData H cfg (some buf) seed h0 = (hss_expand_aux_data H cfg buf (some seed), some buf, []) := by
  have hne : buf.isEmpty = false := by
    cases buf with
    | nil => cases hu
    | cons _ _ => rfl
  unfold getExpandedAuxData
  simp only [hne, hu, Bool.false_eq_true, if_false, if_true]

theorem getExpandedAuxData_fresh (H : HashFn) (cfg : Config) (buf seed : Bytes) (h0 : Nat) (hne : buf.isEmpty = false)
    (hu : hss_is_aux_data_used buf = false) :
    getExpandedAuxData H cfg (some buf) seed h0 =
      (hss_expand_aux_data H cfg (freshAux H.n h0 buf) none, some (freshAux H.n h0 buf),
        buf.drop (hss_get_aux_data_len H.n h0 buf.length)) := by
  unfold getExpandedAuxData
  simp only [hne, hu, Bool.false_eq_true, if_false]
  rfl

theorem getExpandedAuxData_cases (H : HashFn) (cfg : Config) (aux : Option Bytes) (seed : Bytes) (h0 : Nat) :
    getExpandedAuxData H cfg aux seed h0 = (none, aux, []) ∨
    (∃ buf, aux = some buf ∧ hss_is_aux_data_used buf = true ∧
      getExpandedAuxData H cfg aux seed h0 = (hss_expand_aux_data H cfg buf (some seed), some buf, [])) ∨
    (∃ buf, aux = some buf ∧ buf.isEmpty = false ∧
      getExpandedAuxData H cfg aux seed h0 =
        (hss_expand_aux_data H cfg (freshAux H.n h0 buf) none, some (freshAux H.n h0 buf),
          buf.drop (hss_get_aux_data_len H.n h0 buf.length))) := by
  cases aux with
  | none => exact Or.inl rfl
  | some buf =>
    cases hne : buf.isEmpty with
    | true => exact Or.inl (by unfold getExpandedAuxData; simp only [hne, if_true])
    | false =>
      cases hu : hss_is_aux_data_used buf with
      | true => exact Or.inr (Or.inl ⟨buf, rfl, hu, getExpandedAuxData_used H cfg buf seed h0 hu⟩)
      | false => exact Or.inr (Or.inr ⟨buf, rfl, hne, getExpandedAuxData_fresh H cfg buf seed h0 hne hu⟩)

/-- for every key: all slots are empty, and what the level word chosen by `hss_optimal_aux_level` announces fits -/
theorem freshAux_cacheTrue (H : HashFn) (cfg : Config) (hK : cfg.maxTreeHeight ≤ 30) (k : LmsKey) (h0 : Nat)
    (buf : Bytes) (hne : buf.isEmpty = false) (e : ExpAux)
    (he : hss_expand_aux_data H cfg (freshAux H.n h0 buf) none = some e) : CacheTrue H k e := by
  unfold freshAux at he
  apply hss_expand_aux_data_zeros_cacheTrue H cfg _ _ _ e he
  have hlen : 1 ≤ buf.length := by
    cases buf with
    | nil => simp at hne
    | cons x t => simp
  have hle := hss_get_aux_data_len_le H.n h0 buf.length hlen
  rw [Nat.min_eq_left hle] at he ⊢
  generalize hss_get_aux_data_len H.n h0 buf.length = auxLen at he hle ⊢
  -- `maxTreeHeight + 1` levels are counted, and bit 31 of the level word is the flag: hence `maxTreeHeight ≤ 30`
  have hspec := hss_optimal_aux_level_fits H.n h0 auxLen (cfg.maxTreeHeight + 1) (by omega)
  generalize (hss_optimal_aux_level H.n h0 auxLen).1 = lvl at he hspec ⊢
  have hv := hss_expand_aux_data_some he
  by_cases hl : lvl = 0
  · subst hl
    have hu := hv.used
    rw [hss_store_aux_marker_zero_unused] at hu
    cases hu
  · -- the level word read back is `lvl` modulo `2 ^ 32`, and the levels counted lie below bit 32
    obtain ⟨_, hlw, _⟩ := readAt_inv hv.head
    have hm : hss_store_aux_marker (Bytes.zeros auxLen) lvl = Bytes.patch (Bytes.zeros auxLen) 0 (Bytes.u32be lvl) := by
      unfold hss_store_aux_marker
      rw [if_neg (by simpa using hl)]
    have h4 := Bytes.u32be_length lvl
    have hs := Bytes.slice_patch_same (Bytes.zeros auxLen) 0 (Bytes.u32be lvl)
      (by rw [Bytes.zeros_length, h4]; omega)
    rw [h4] at hs
    rw [hv.level, hlw, hm, hs, Bytes.u32be, Bytes.toNat_be, auxTotal_eq_sum, auxSizes_sum, lvSum_mod _ _ _ (by omega)]
    exact hspec hl

/-- The authentication path loop of `lmsSign`. Its body is spelt `let (v, a) := …` here and in the model,
`match … with | (v, a) => …` in `SignTotal`; these and the spelling with `.1` / `.2` are one term to `rw`, `simp only` and
`exact` once `lmsSign` is unfolded: the pattern `let` is that `match`, and a matcher on a pair unfolds to the projections. -/
def authPath (H : HashFn) (k : LmsKey) (leaf : Nat) (aux : Option ExpAux) : List Bytes × Option ExpAux :=
  (List.range k.lms.h).foldl (fun (acc : List Bytes × Option ExpAux) i =>
      let (v, a) := treeNode H k ((leaf / 2 ^ i) ^^^ 1) acc.2
      (acc.1 ++ [v], a)) ([], aux)

theorem Through.collect {H : HashFn} {k : LmsKey} {f : Nat → Option ExpAux → Bytes × Option ExpAux}
    {v : Nat → Bytes} (m : Nat) (h : ∀ i, i < m → Through H k (f i) (v i)) :
    Through H k (fun a => (List.range m).foldl (fun (acc : List Bytes × Option ExpAux) i =>
      let (x, a') := f i acc.2
      (acc.1 ++ [x], a')) ([], a)) ((List.range m).map v) := fun a ha =>
  -- `foldl_collect` with the state invariant "good, and framed as the view that came in"
  have ⟨h1, h2, h3⟩ := foldl_collect (Inv := fun s => AuxGood H k s ∧ oframe s = oframe a) (f := f) (v := v) m
    (fun i hi s hs => have ⟨e, g, fr⟩ := h i hi s hs.1; ⟨e, g, fr.trans hs.2⟩) ⟨ha, rfl⟩
  ⟨h1, h2, h3⟩

theorem through_authPath {H : HashFn} {k : LmsKey} {q : Nat} (hq : q < 2 ^ k.lms.h) :
    Through H k (authPath H k (2 ^ k.lms.h + q))
      ((List.range k.lms.h).map fun i => T H k (((2 ^ k.lms.h + q) / 2 ^ i) ^^^ 1)) :=
  Through.collect (f := fun i => treeNode H k (((2 ^ k.lms.h + q) / 2 ^ i) ^^^ 1)) k.lms.h fun i hi =>
    through_treeNode (Nat.sub_le _ i) (Complete.sibling_level hq hi).1 (Complete.sibling_level hq hi).2

theorem lmsSign_transparent (H : HashFn) (cfg : Config) (k : LmsKey) (q : Nat) (msg C : Bytes)
    (a : Option ExpAux) (ha : AuxGood H k a) :
    ∃ a', lmsSign H cfg k q msg C a =
        (lmsSign H cfg k q msg C none).map (Option.map fun p => (p.1, a')) ∧
      AuxGood H k a' ∧ oframe a' = oframe a := by
  unfold lmsSign
  by_cases hq : q ≥ 2 ^ k.lms.h
  · exact ⟨a, by simp only [hq, if_true]; rfl, ha, rfl⟩
  · obtain ⟨v1, g1, f1⟩ := through_authPath (Nat.lt_of_not_ge hq) a ha
    obtain ⟨v2, _, _⟩ := through_authPath (H := H) (Nat.lt_of_not_ge hq) none (auxGood_none H k)
    generalize ha1 : (authPath H k (2 ^ k.lms.h + q) a).2 = a1 at g1 f1
    generalize ha2 : (authPath H k (2 ^ k.lms.h + q) none).2 = a2
    have e1 : authPath H k (2 ^ k.lms.h + q) a = (_, a1) := Prod.ext v1 ha1
    have e2 : authPath H k (2 ^ k.lms.h + q) none = (_, a2) := Prod.ext v2 ha2
    unfold authPath at e1 e2
    refine ⟨a1, ?_, g1, f1⟩
    simp only [hq, if_false]
    simp only [e1, e2, P.map_bind]
    rfl

def setAux (a : Option ExpAux) : Option (Expanded × Option ExpAux) → Option (Expanded × Option ExpAux) :=
  Option.map fun p => (p.1, a)

theorem expandPrivateKey_go_dead (H : HashFn) (cfg : Config) (leaves : List Nat) (rest : List HssParam) :
    ∀ (i : Nat) (parent : Level) (acc : Expanded) (aux : Option ExpAux),
      expandPrivateKey.go H cfg leaves i rest parent acc aux false =
        (expandPrivateKey.go H cfg leaves i rest parent acc none false).map (setAux aux) := by
  induction rest with
  | nil => intro i parent acc aux; rfl
  | cons p rest' ih =>
    intro i parent acc aux
    rw [expandPrivateKey.go.eq_2, expandPrivateKey.go.eq_2]
    dsimp only
    simp only [Bool.false_eq_true, if_false, P.map_bind]
    refine bind_congr fun _ => bind_congr fun r => ?_
    cases r with
    | none => rfl
    | some p =>
      dsimp only
      rw [ih]

theorem expandPrivateKey_transparent (H : HashFn) (cfg : Config) (k : RefKey) (p0 : HssParam)
    (hst : signTop H cfg k = some p0) (aux : Option ExpAux) (ha : AuxGood H (topKey H k.seed p0) aux) :
    ∃ a', expandPrivateKey H cfg k aux = (expandPrivateKey H cfg k none).map (setAux a') ∧
      AuxGood H (topKey H k.seed p0) a' ∧ oframe a' = oframe aux := by
  obtain ⟨rest, hp⟩ := signTop_eq_some_iff.1 hst
  rw [Layout.expandPrivateKey_of_params hp, Layout.expandPrivateKey_of_params hp]
  unfold Layout.topLevel Complete.rootKey
  generalize Layout.leafVector _ _ = leaves
  cases rest with
  | nil => exact ⟨aux, rfl, ha, rfl⟩
  | cons p rest' =>
    -- only the first step of the loop sees the view
    rw [expandPrivateKey.go.eq_2, expandPrivateKey.go.eq_2]
    dsimp only
    simp only [if_true]
    generalize lmsPublicKeyBytes _ _ = pkb
    generalize signatureRandomizer H _ _ _ = C
    obtain ⟨a1, e1, g1, f1⟩ := lmsSign_transparent H cfg (topKey H k.seed p0) (leaves.getD 0 0) pkb C aux ha
    refine ⟨a1, ?_, g1, f1⟩
    unfold topKey at e1
    rw [e1]
    simp only [P.map_bind, P.bind_map]
    refine bind_congr fun _ => bind_congr fun r => ?_
    cases r with
    | none => rfl
    | some p =>
      dsimp only [Option.map]
      rw [expandPrivateKey_go_dead, expandPrivateKey_go_dead (aux := p.2), P.map_map]
      congr 1
      funext x
      cases x <;> rfl

theorem expandPrivateKey_single (H : HashFn) (cfg : Config) (k : RefKey) (aux : Option ExpAux)
    (ex : Expanded) (a : Option ExpAux) (h : expandPrivateKey H cfg k aux = .ok (some (ex, a)))
    (hL : ex.levels.length = 1) (bottom : Level) (hb : ex.levels.getLast? = some bottom) :
    ∃ p0, signTop H cfg k = some p0 ∧ bottom.key = topKey H k.seed p0 := by
  obtain ⟨p0, rest, hps, hl⟩ := Layout.expandPrivateKey_levels h
  rw [hl, List.length_cons, Layout.lowerLevels_length] at hL
  obtain rfl : rest = [] := List.length_eq_zero_iff.1 (Nat.succ.inj hL)
  rw [hl] at hb
  exact ⟨p0, signTop_eq_some_iff.2 ⟨_, hps⟩, (Option.some.inj hb) ▸ rfl⟩

end Lemmas.AuxCache
