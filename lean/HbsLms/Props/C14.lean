/-
C14 - building the library with a smaller maximum level count, smaller maximum tree heights or larger minimum
Winternitz parameters only restricts which parameter lists are accepted: every list within the limits yields the
same private key, public key and signatures as the default build and remains fully usable (all compile-time
capacities suffice), while lists beyond the limits are refused with an error, not a crash.
`cfg : Config` is the build configuration (`HBS_LMS_MAX_ALLOWED_HSS_LEVELS`, `HBS_LMS_TREE_HEIGHTS`,
`HBS_LMS_WINTERNITZ_PARAMETERS`).
-/
import HbsLms.Lemmas.ConfigIndep
import HbsLms.Lemmas.KeygenRefine
import HbsLms.Props.C04
import HbsLms.Props.C02

namespace Props.C14

open Impl Lemmas Generated

theorem default_valid : Config.default.valid = true := by decide
theorem default_wellFormed : Config.default.wellFormed = true := by decide

/-! That `Config`'s capacities are those of the compiled library is not proved here: the `consts` request of the check
compares every capacity, `MAX_HSS_SIGNATURE_LENGTH` included, with the model's value under every build configuration
it explores (tools/props/C14.py). -/

/-- What `CompressedParameterSet::to` guarantees about an accepted list under a well-formed configuration: it is
non-empty, within the level, height and Winternitz limits (themselves within `MAX_TREE_HEIGHT` /
`MIN_WINTERNITZ_PARAMETER`), made of table rows, and its signature length fits a `u16`; and every capacity suffices:
chain counts ≤ `MAX_NUM_WINTERNITZ_CHAINS`, each LMS signature ≤ `MAX_LMS_SIGNATURE_LENGTH`, the HSS signature ≤
`MAX_HSS_SIGNATURE_LENGTH`. -/
theorem accepted_list_fits (cfg : Config) (hwf : cfg.wellFormed = true) (n : Nat) (bs : Bytes) (ps : List HssParam)
    (h : paramsOfBytes cfg n bs = some ps) :
    ps ≠ [] ∧ ps.length ≤ cfg.maxLevels ∧ (n = 16 ∨ n = 24 ∨ n = 32) ∧
    (∀ i (hi : i < ps.length),
      ps[i].lms.h ≤ cfg.heights.getD i 0 ∧ cfg.heights.getD i 0 ≤ cfg.maxTreeHeight ∧
      cfg.winternitz.getD i 0 ≤ ps[i].ots.w ∧ cfg.minWinternitz ≤ cfg.winternitz.getD i 0 ∧
      (∃ t, Params.lmotsFromU32 n t = some ps[i].ots) ∧ (∃ t, Params.lmsFromU32 t = some ps[i].lms) ∧
      ps[i].ots.p ≤ cfg.maxChains ∧
      lms_signature_length n ps[i].ots.p ps[i].lms.h ≤ cfg.maxLmsSigLen) ∧
    hssSigLen n ps ≤ 65535 ∧ hssSigLen n ps ≤ cfg.maxHssSigLen := by
  have hok := ParamsOk.of_paramsOfBytes h
  refine ⟨hok.ne, (ParamsOk.length_le hok).2, ParamsOk.hashLen hok, ?_, hok.sigLen, hssSigLen_le_max hwf hok⟩
  intro i hi
  have hl := hok.level i hi
  have hc := hl.caps hwf
  exact ⟨hc.heightLevel, hc.heightMax, hc.winternitzLevel, hc.winternitzMin, hl.otsU32, hl.lmsU32, hc.chains, hc.sigLen⟩

/-- **monotonicity**: whatever a restricted build accepts, the default build accepts, with the same parameter list -/
theorem accepted_by_default (cfg : Config) (hv : cfg.valid = true) (n : Nat) (bs : Bytes) (ps : List HssParam)
    (h : paramsOfBytes cfg n bs = some ps) : paramsOfBytes Config.default n bs = some ps :=
  have ⟨hd, hlim⟩ := paramsOfBytes_eq_some_iff.mp h
  paramsOfBytes_eq_some_iff.mpr ⟨hd, fun i hi =>
    have hl := (ParamsOk.of_paramsOfBytes h).level i hi
    withinLimits_default hv hl.ots hl.lms (hlim i hi)⟩

/-- **exact characterisation**: a restricted build accepts a compressed parameter set iff the default build accepts
it and every level is within the configured limits (level count, height, Winternitz parameter) - nothing else
distinguishes the two builds -/
theorem accepted_iff (cfg : Config) (hv : cfg.valid = true) (n : Nat) (bs : Bytes) (ps : List HssParam) :
    paramsOfBytes cfg n bs = some ps ↔
      paramsOfBytes Config.default n bs = some ps ∧ ∀ i (h : i < ps.length), cfg.withinLimits i ps[i] = true :=
  ⟨fun h => ⟨accepted_by_default cfg hv n bs ps h, (paramsOfBytes_eq_some_iff.mp h).2⟩,
   fun ⟨h, hlim⟩ => paramsOfBytes_eq_some_iff.mpr ⟨(paramsOfBytes_eq_some_iff.mp h).1, hlim⟩⟩

/-- signing under the restricted and under the default build: the same outcome whenever the two treat the aux buffer
alike -/
theorem sign_same_as_default_of_auxAlike (H : HashFn) (cfg : Config) (hwf : cfg.wellFormed = true) (msg sk : Bytes)
    (cb : Bytes → Bool) (aux : Option Bytes) (k : RefKey) (hk : RefKey.parse H.n sk = some k)
    (hacc : paramsOfBytes cfg H.n k.params ≠ none) (haux : AuxAlike H cfg Config.default aux) :
    hssSign H cfg msg sk cb aux = hssSign H Config.default msg sk cb aux := by
  apply hssSign_indep H cfg Config.default hwf default_wellFormed msg sk cb aux _ haux
  intro k' hk'
  obtain rfl : k = k' := Option.some.inj (hk.symm.trans hk')
  cases hp : paramsOfBytes cfg H.n k.params with
  | none => exact absurd hp hacc
  | some ps => exact (accepted_by_default cfg (wellFormed_valid hwf) H.n _ ps hp).symm

/-- **signatures**: for a private key whose parameter bytes the restricted build accepts, signing under the restricted
build and under the default build gives the same outcome: same signature bytes, same successor private key handed to
the callback, same verdict. (No aux buffer; see `sign_same_as_default_aux` for the buffer.) -/
theorem sign_same_as_default (H : HashFn) (cfg : Config) (hwf : cfg.wellFormed = true) (msg sk : Bytes)
    (cb : Bytes → Bool) (k : RefKey) (hk : RefKey.parse H.n sk = some k)
    (hacc : paramsOfBytes cfg H.n k.params ≠ none) :
    hssSign H cfg msg sk cb none = hssSign H Config.default msg sk cb none :=
  sign_same_as_default_of_auxAlike H cfg hwf msg sk cb none k hk hacc (auxAlike_none H _ _)

/-- with an aux buffer, when the restricted build keeps the default `MAX_TREE_HEIGHT` (e.g. only the level count or
the Winternitz limits were changed, or some but not all heights were lowered) -/
theorem sign_same_as_default_aux (H : HashFn) (cfg : Config) (hwf : cfg.wellFormed = true) (msg sk : Bytes)
    (cb : Bytes → Bool) (aux : Option Bytes) (k : RefKey) (hk : RefKey.parse H.n sk = some k)
    (hacc : paramsOfBytes cfg H.n k.params ≠ none) (hh : cfg.maxTreeHeight = Config.default.maxTreeHeight) :
    hssSign H cfg msg sk cb aux = hssSign H Config.default msg sk cb aux :=
  sign_same_as_default_of_auxAlike H cfg hwf msg sk cb aux k hk hacc (auxAlike_of_height H _ _ aux hh)

/-- The two preceding cases together. Not proved: the statement for ANY aux buffer and any accepted key. With an aux
buffer, `hss_expand_aux_data` walks the level bits `0 ..= MAX_TREE_HEIGHT`, so a build with a smaller
`MAX_TREE_HEIGHT` lays out (and MACs) a buffer whose level word has higher bits set differently from the default
build; the full statement would need the hypothesis that the level word has no bit above `cfg.maxTreeHeight` (true of
buffers this build initialised itself, not of arbitrary bytes). -/
theorem sign_same_as_default_any_aux_partial (H : HashFn) (cfg : Config) (hwf : cfg.wellFormed = true) (msg sk : Bytes)
    (cb : Bytes → Bool) (aux : Option Bytes) (k : RefKey) (hk : RefKey.parse H.n sk = some k)
    (hacc : paramsOfBytes cfg H.n k.params ≠ none)
    (hh : aux = none ∨ cfg.maxTreeHeight = Config.default.maxTreeHeight) :
    hssSign H cfg msg sk cb aux = hssSign H Config.default msg sk cb aux := by
  rcases hh with rfl | hh
  · exact sign_same_as_default H cfg hwf msg sk cb k hk hacc
  · exact sign_same_as_default_aux H cfg hwf msg sk cb aux k hk hacc hh

/-- weaker hypotheses, weaker conclusion: for ANY two configurations and any aux buffer they treat alike, if neither
signing run panics the prepared signatures coincide (the configuration enters only through capacity checks) -/
theorem signPrepare_config_independent (H : HashFn) (cfg cfg' : Config) (msg : Bytes) (k : RefKey) (aux : Option Bytes)
    (hps : paramsOfBytes cfg H.n k.params = paramsOfBytes cfg' H.n k.params) (haux : AuxAlike H cfg cfg' aux)
    (p p' : Prepared) (h : signPrepare H cfg msg k aux = .ok p) (h' : signPrepare H cfg' msg k aux = .ok p') :
    p = p' :=
  signPrepare_agree H cfg cfg' msg k aux hps haux p p' h h'

/-- **private and public key**: whenever key generation succeeds under the restricted build, the default build
generates the same private key and the same public key from the same seed -/
theorem keygen_same_as_default (H : HashFn) (cfg : Config) (hv : cfg.valid = true) (ps : List HssParam)
    (seed : Bytes) (hrows : ∀ p ∈ ps, IsOtsRow H.n p.ots ∧ IsLmsRow p.lms) (o : KeygenOutcome)
    (h : hssKeygen H cfg ps seed none = .ok o) (hres : o.result ≠ none) :
    hssKeygen H Config.default ps seed none = .ok o := by
  obtain ⟨pb, ps', p0, hb, hp, hh⟩ := KeygenRefine.hssKeygen_none_top_inv h hres
  rw [KeygenRefine.hssKeygen_none_eq hb hp hh] at h
  rw [KeygenRefine.hssKeygen_none_eq (bytesOfParams_default cfg hv H.n ps pb hrows hb)
    (accepted_by_default cfg hv H.n pb ps' hp) hh]
  exact h

/-- **verification** does not depend on the build either: a signature with at most `cfg.maxLevels` levels gets the
same verdict from the restricted and from the default build -/
theorem verify_same_as_default (H : HashFn) (cfg : Config) (hv : cfg.valid = true) (msg sig pk : Bytes)
    (hlev : ∀ lb, readAt sig 4 0 = some lb → Bytes.toNat lb + 1 ≤ cfg.maxLevels) :
    hssVerify H cfg msg sig pk = hssVerify H Config.default msg sig pk := by
  have h8 := (valid_props hv).levels_le
  refine hssVerify_indep H msg sig pk fun lb hr => ?_
  have := hlev lb hr
  rw [default_maxLevels]
  omega

/-- a signature the restricted build accepts is accepted by the default build -/
theorem verify_accepted_by_default (H : HashFn) (cfg : Config) (hv : cfg.valid = true) (msg sig pk : Bytes)
    (h : hssVerify H cfg msg sig pk = .ok true) : hssVerify H Config.default msg sig pk = .ok true :=
  hssVerify_mono (default_maxLevels ▸ (valid_props hv).levels_le) h

/-- A signature that fits the `Signature` object gets the verdict of `hss_verify` from all three entry points, for every
message and every key: both sides are the RFC verdict, and a key too long for `VerifyingKey` is not RFC-valid
(`Props.C02.long_pk_invalid`), so the capacity check on the key never decides. -/
theorem verifyEntry_of_fits (e : Entry) (H : HashFn) (cfg : Config) (msg sig pk : Bytes)
    (hs : sig.length ≤ 65535 ∧ sig.length ≤ cfg.maxHssSigLen) :
    verifyEntry e H cfg msg sig pk = hssVerify H cfg msg sig pk :=
  (Props.C02.verifyEntry_iff_rfc e H cfg msg sig pk fun _ => hs).trans (Props.C02.verify_iff_rfc H cfg msg sig pk).symm

/-- whatever the restricted build releases fits the `u16`-length ArrayVec and `MAX_HSS_SIGNATURE_LENGTH` (that every
signature it assembles is released as soon as the callback accepts the successor key is
`usable_iff_callback_accepts`); and the capacity-checked verification entry point does not refuse it for its length -/
theorem released_signature_fits (H : HashFn) (cfg : Config) (msg sk : Bytes)
    (cb : Bytes → Bool) (aux : Option Bytes) (o : SignOutcome) (sig : Bytes)
    (h : hssSign H cfg msg sk cb aux = .ok o) (hs : o.result = some sig) :
    sig.length ≤ 65535 ∧ sig.length ≤ cfg.maxHssSigLen ∧
    ∀ pk, pk.length ≤ Config.maxHssPkLen →
      verifyEntry .viaSignature H cfg msg sig pk = hssVerify H cfg msg sig pk := by
  obtain ⟨_, _, _, _, -, -, -, -, hfit⟩ := Lemmas.hssSign_released h hs
  exact ⟨hfit.1, hfit.2, fun pk _ => verifyEntry_of_fits .viaSignature H cfg msg sig pk hfit⟩

/-- the callback's verdict is the only thing that decides whether an assembled signature is released -/
theorem usable_iff_callback_accepts (H : HashFn) (cfg : Config) (hwf : cfg.wellFormed = true) (msg sk : Bytes)
    (cb : Bytes → Bool) (aux : Option Bytes) (k : RefKey) (hs : List Nat) (sig : Bytes) (a : Option Bytes) (r : Bytes)
    (hk : RefKey.parse H.n sk = some k) (hp : signPrepare H cfg msg k aux = .ok (.ready hs sig a r)) :
    hssSign H cfg msg sk cb aux =
      .ok ⟨if cb (k.increment H.n hs).bytes then some sig else none, [(k.increment H.n hs).bytes], a, r⟩ := by
  obtain ⟨p, hp', hf, ho⟩ := hssSign_eq_commit H cfg hwf msg hk cb aux
  obtain rfl : Prepared.ready hs sig a r = p := Except.ok.inj (hp.symm.trans hp')
  rw [ho, signCommit_ready_of_fits hf]

/-- **key generation within the limits succeeds**, under the restricted build exactly as under the default build:
`hss_keygen` returns the private key `u64(0) ‖ compressed parameters ‖ seed` and a public key, and the compressed
parameters decode (under this build) to the very list that was passed in. -/
theorem keygen_within_limits (H : HashFn) (cfg : Config) (hv : cfg.valid = true) (ps : List HssParam) (seed : Bytes)
    (hrows : ∀ p ∈ ps, IsOtsRow H.n p.ots ∧ IsLmsRow p.lms) (hne : ps ≠ [])
    (hlen : ps.length ≤ cfg.maxLevels) (hlim : ∀ i (h : i < ps.length), cfg.withinLimits i ps[i] = true)
    (hsl : hssSigLen H.n ps ≤ 65535) (hseed : seed.length ≤ MAX_SEED_LEN) :
    ∃ pb vk, hssKeygen H cfg ps seed none = .ok ⟨some (Bytes.u64be 0 ++ pb ++ seed, vk), none, []⟩ ∧
      hssKeygen H Config.default ps seed none = .ok ⟨some (Bytes.u64be 0 ++ pb ++ seed, vk), none, []⟩ ∧
      pb.length = 8 ∧ paramsOfBytes cfg H.n pb = some ps := by
  obtain ⟨hb, hp⟩ := bytesOfParams_roundtrip hrows hne ⟨hlen, hlim⟩ (decide_eq_true hsl)
  have hpl8 := encodeParams_length (Nat.le_trans hlen (valid_props hv).levels_le)
  generalize encodeParams ps = pb at hb hp hpl8
  cases ps with
  | nil => exact absurd rfl hne
  | cons p0 rest =>
    have hn : H.n ≤ 32 := (ots_row_props (hrows p0 (by simp)).1).n_le
    -- `h1`, `h2`: neither capacity check of `keygenResult` (private key blob, public key) refuses
    have h1 : ¬ (RefKey.bytes ⟨0, pb, seed⟩).length > Config.maxPrivKeyLen := by
      rw [RefKey.bytes_length]
      simp only [Config.maxPrivKeyLen, REF_IMPL_MAX_PRIVATE_KEY_SIZE, MAX_SEED_LEN] at hseed ⊢
      omega
    have hpk := (lmsPublicKeyBytes_length_le (n := H.n) (Complete.rootKey H seed p0) (Complete.T H (Complete.rootKey H seed p0) p0.lms.h 1)
      (Complete.rootSeedAndId_I_length H seed ▸ Nat.min_le_left _ _) (Nat.le_of_eq (Complete.T_length H _ _ _)) hn).1
    have h2 : ¬ (Bytes.u32be (p0 :: rest).length ++ lmsPublicKeyBytes (Complete.rootKey H seed p0)
        (Complete.T H (Complete.rootKey H seed p0) p0.lms.h 1)).length > Config.maxHssPkLen := by
      rw [List.length_append, Bytes.u32be_length]
      simp only [Config.maxLmsPkLen, Config.maxHssPkLen] at hpk ⊢
      omega
    have hkey := KeygenRefine.hssKeygen_none_eq hb hp rfl seed
    rw [AuxCache.keygenResult, if_neg h1, if_neg h2] at hkey
    exact ⟨pb, _, hkey, keygen_same_as_default H cfg hv _ seed hrows _ hkey (fun h0 => nomatch h0), hpl8, hp⟩

/-- the generated private key parses back, so signing with it goes through `sign_same_as_default` -/
theorem generated_key_parses (n : Nat) (pb seed : Bytes) (hpb : pb.length = 8) (hs : seed.length = n) :
    RefKey.parse n (Bytes.u64be 0 ++ pb ++ seed) = some ⟨0, pb, seed⟩ :=
  Lemmas.RefKey.parse_bytes n ⟨0, pb, seed⟩ hpb hs (Nat.two_pow_pos 64)

/-- signing with a key whose parameter bytes are beyond the limits of this build: `Err`, callback not invoked -/
theorem sign_beyond_limits (H : HashFn) (cfg : Config) (msg sk : Bytes) (cb : Bytes → Bool) (aux : Option Bytes)
    (k : RefKey) (hk : RefKey.parse H.n sk = some k) (hp : paramsOfBytes cfg H.n k.params = none) :
    hssSign H cfg msg sk cb aux = .ok ⟨none, [], aux, []⟩ :=
  C04.unusable_parameters_fail_before_callback H cfg msg sk cb aux k hk hp

/-- A build refuses a compressed parameter set as soon as one level of its decoding is outside the limits; the decoding
may be that of ANY build `cfg'` (`paramsOfBytes_unique`), and neither configuration needs to be valid. -/
theorem refused_of_level_outside {cfg cfg' : Config} {n : Nat} {bs : Bytes} {ps : List HssParam}
    (hd : paramsOfBytes cfg' n bs = some ps) {i : Nat} (hi : i < ps.length)
    (hout : cfg.withinLimits i ps[i] = false) : paramsOfBytes cfg n bs = none := by
  cases h : paramsOfBytes cfg n bs with
  | none => rfl
  | some ps' =>
    obtain rfl := paramsOfBytes_unique hd h
    rw [(paramsOfBytes_eq_some_iff.mp h).2 i hi] at hout
    cases hout

/-- one level outside the limits (too many levels, tree too high, Winternitz parameter too small) makes the whole
compressed parameter set unacceptable -/
theorem beyond_limits_refused (cfg : Config) (hv : cfg.valid = true) (n : Nat) (bs : Bytes) (ps : List HssParam)
    (hd : paramsOfBytes Config.default n bs = some ps) (i : Nat) (hi : i < ps.length)
    (hout : cfg.withinLimits i ps[i] = false) : paramsOfBytes cfg n bs = none :=
  refused_of_level_outside hd hi hout

/-- key generation beyond the limits (too many levels, or a level outside the limits: then `CompressedParameterSet::from`
refuses the list): an error outcome with the aux buffer untouched -/
theorem keygen_level_outside (H : HashFn) (cfg : Config) (ps : List HssParam) (seed : Bytes) (aux : Option Bytes)
    (h : ps.length > cfg.maxLevels ∨ ∃ i, ∃ hi : i < ps.length, cfg.withinLimits i ps[i] = false) :
    hssKeygen H cfg ps seed aux = .ok ⟨none, aux, []⟩ :=
  hssKeygen_of_not_fits (seed := seed) (aux := aux) fun ⟨hl, hw⟩ => by
    rcases h with h | ⟨i, hi, hout⟩
    · exact Nat.not_le.mpr h hl
    · rw [hw i hi] at hout
      cases hout

example : (Config.mk 2 [10, 5] [2, 4]).wellFormed = true := by decide
example : (Config.mk 2 [10, 5] [2, 4]).maxTreeHeight = 10 ∧ (Config.mk 2 [10, 5] [2, 4]).minWinternitz = 2 := by decide
/-- H10/W2 over H5/W4 (bytes 0x62 0x53) is accepted by that build, H15 on top is not -/
example : (paramsOfBytes (Config.mk 2 [10, 5] [2, 4]) 32 [0x62, 0x53, 0xff, 0xff, 0xff, 0xff, 0xff, 0xff]).isSome = true ∧
    paramsOfBytes (Config.mk 2 [10, 5] [2, 4]) 32 [0x72, 0x53, 0xff, 0xff, 0xff, 0xff, 0xff, 0xff] = none := by
  decide +kernel

end Props.C14

#print axioms Props.C14.default_wellFormed
#print axioms Props.C14.accepted_list_fits
#print axioms Props.C14.accepted_by_default
#print axioms Lemmas.bytesOfParams_default
#print axioms Props.C14.accepted_iff
#print axioms Props.C14.sign_same_as_default
#print axioms Props.C14.sign_same_as_default_aux
#print axioms Props.C14.sign_same_as_default_any_aux_partial
#print axioms Props.C14.signPrepare_config_independent
#print axioms Props.C14.keygen_same_as_default
#print axioms Props.C14.keygen_within_limits
#print axioms Props.C14.generated_key_parses
#print axioms Props.C14.verify_same_as_default
#print axioms Props.C14.verify_accepted_by_default
#print axioms Props.C14.released_signature_fits
#print axioms Props.C14.usable_iff_callback_accepts
#print axioms Props.C14.sign_beyond_limits
#print axioms Props.C14.beyond_limits_refused
#print axioms Props.C14.keygen_level_outside
#print axioms Props.C14.sign_same_as_default_of_auxAlike
#print axioms Props.C14.verifyEntry_of_fits
#print axioms Props.C14.refused_of_level_outside
