/-
Completeness of the Merkle tree: without a cache `getTreeElement` computes the plain recursive tree `T`, the
authentication path built by the signer consists of the siblings along the leaf-to-root walk, and the verifier's
climb from the leaf value along that path ends in the root `T[1]`.
-/
import HbsLms.Lemmas.LmsRefine

namespace Lemmas.Complete

open Impl Generated

/-- `T d r` is the value of node `r` whose subtree has depth `d` -/
def T (H : HashFn) (k : LmsKey) : Nat → Nat → Bytes
  | 0, r => leafNode H k r
  | d+1, r => H.h (k.I ++ Bytes.u32be r ++ D_INTR ++ T H k d (2 * r) ++ T H k d (2 * r + 1))

theorem T_length (H : HashFn) (k : LmsKey) (d r : Nat) : (T H k d r).length = H.n := by
  cases d with
  | zero => simp only [T, leafNode]; exact H.len_h _
  | succ d => simp only [T]; exact H.len_h _

theorem level_succ_iff_parent {j y : Nat} :
    (2 ^ (j + 1) ≤ y ∧ y < 2 ^ (j + 1 + 1)) ↔ (2 ^ j ≤ y / 2 ∧ y / 2 < 2 ^ (j + 1)) := by
  rw [Nat.le_div_iff_mul_le (by decide : 0 < 2), Nat.div_lt_iff_lt_mul (by decide : 0 < 2), ← Nat.pow_succ,
    ← Nat.pow_succ]

/-- node `r` lies on level `j` of the tree (`2^j ≤ r < 2^(j+1)`) and `fuel` is the depth of its subtree (`j + fuel = h`),
as `treeNode` calls it -/
theorem getTreeElement_none (H : HashFn) (k : LmsKey) : ∀ (fuel r j : Nat), j + fuel = k.lms.h → 2 ^ j ≤ r →
    r < 2 ^ (j + 1) → getTreeElement H k fuel r none = (T H k fuel r, none) := by
  intro fuel
  induction fuel with
  | zero =>
    intro r j hj hlo _
    have : r ≥ 2 ^ k.lms.h := by rw [← hj]; exact hlo
    unfold getTreeElement
    simp only [Option.bind_none, this, if_true, Option.map_none, T]
  | succ f ih =>
    intro r j hj hlo hhi
    have hjh : j + 1 ≤ k.lms.h := hj ▸ Nat.add_le_add_left (Nat.succ_le_succ (Nat.zero_le f)) j
    have hlt : ¬ r ≥ 2 ^ k.lms.h := Nat.not_le.2 (Nat.lt_of_lt_of_le hhi (Nat.pow_le_pow_right (by decide) hjh))
    have hf : j + 1 + f = k.lms.h := (Nat.add_right_comm j 1 f).trans hj
    -- the two children of a node on level `j` lie on level `j + 1`
    obtain ⟨a1, b1⟩ := (level_succ_iff_parent (j := j) (y := 2 * r)).2
      (by rw [Nat.mul_div_cancel_left r (by decide : 0 < 2)]; exact ⟨hlo, hhi⟩)
    obtain ⟨a2, b2⟩ := (level_succ_iff_parent (j := j) (y := 2 * r + 1)).2
      (by rw [Nat.mul_add_div (by decide : 0 < 2), Nat.add_zero]; exact ⟨hlo, hhi⟩)
    have h1 := ih (2 * r) (j + 1) hf a1 b1
    have h2 := ih (2 * r + 1) (j + 1) hf a2 b2
    unfold getTreeElement
    simp only [Option.bind_none, hlt, if_false, h1, h2, Option.map_none, T]

theorem log2_of_level {r j : Nat} (hlo : 2 ^ j ≤ r) (hhi : r < 2 ^ (j + 1)) : log2 r = j := by
  unfold log2
  have hr : r ≠ 0 := by have := Nat.two_pow_pos j; omega
  exact (Nat.log2_eq_iff hr).mpr ⟨hlo, hhi⟩

theorem treeNode_none (H : HashFn) (k : LmsKey) (r j : Nat) (hj : j ≤ k.lms.h) (hlo : 2 ^ j ≤ r)
    (hhi : r < 2 ^ (j + 1)) : treeNode H k r none = (T H k (k.lms.h - j) r, none) := by
  unfold treeNode
  rw [log2_of_level hlo hhi]
  exact getTreeElement_none H k _ r j (by omega) hlo hhi

theorem treeNode_root (H : HashFn) (k : LmsKey) : treeNode H k 1 none = (T H k k.lms.h 1, none) := by
  have := treeNode_none H k 1 0 (by omega) (by simp) (by simp)
  simpa using this

theorem xor_one_div (x : Nat) : (x ^^^ 1) / 2 = x / 2 := by
  rw [Nat.xor_div_two]
  exact Nat.xor_zero _

theorem node_level {h q i : Nat} (hq : q < 2 ^ h) (hi : i ≤ h) :
    2 ^ (h - i) ≤ (2 ^ h + q) / 2 ^ i ∧ (2 ^ h + q) / 2 ^ i < 2 ^ (h - i + 1) := by
  have hp : 2 ^ (h - i) * 2 ^ i = 2 ^ h := by rw [← Nat.pow_add, Nat.sub_add_cancel hi]
  have hpos : 0 < 2 ^ i := Nat.two_pow_pos i
  rw [Nat.le_div_iff_mul_le hpos, Nat.div_lt_iff_lt_mul hpos, hp, Nat.pow_succ, Nat.mul_right_comm, hp, Nat.mul_two]
  exact ⟨Nat.le_add_right _ _, Nat.add_lt_add_left hq _⟩

/-- the siblings of the nodes on the walk from leaf `2^h + q` to the root -/
def authPath (H : HashFn) (k : LmsKey) (q : Nat) : List Bytes :=
  (List.range k.lms.h).map fun i => T H k i (((2 ^ k.lms.h + q) / 2 ^ i) ^^^ 1)

theorem authPath_length (H : HashFn) (k : LmsKey) (q : Nat) : (authPath H k q).length = k.lms.h := by
  simp [authPath]

theorem authPath_mem_length (H : HashFn) (k : LmsKey) (q : Nat) : ∀ y ∈ authPath H k q, y.length = H.n := by
  intro y hy
  simp only [authPath, List.mem_map] at hy
  obtain ⟨i, _, rfl⟩ := hy
  exact T_length H k _ _

theorem authPath_flatten_length (H : HashFn) (k : LmsKey) (q : Nat) :
    (authPath H k q).flatten.length = H.n * k.lms.h := by
  rw [Bytes.flatten_length_of H.n _ (authPath_mem_length H k q), authPath_length]

theorem sibling_level {h q i : Nat} (hq : q < 2 ^ h) (hi : i < h) :
    2 ^ (h - i) ≤ ((2 ^ h + q) / 2 ^ i) ^^^ 1 ∧ ((2 ^ h + q) / 2 ^ i) ^^^ 1 < 2 ^ (h - i + 1) := by
  have hn := node_level hq (Nat.le_of_lt hi)
  -- the level is at least 1, and there it is determined by the parent, which the two siblings share
  obtain ⟨j, hj⟩ : ∃ j, h - i = j + 1 := ⟨h - i - 1, (Nat.succ_pred_eq_of_pos (Nat.sub_pos_of_lt hi)).symm⟩
  rw [hj] at hn ⊢
  rw [level_succ_iff_parent, xor_one_div]
  exact level_succ_iff_parent.1 hn

/-- the fold is the one in `lmsSign`; without a cache every step computes the sibling afresh (`treeNode_none`) -/
theorem authPath_fold (H : HashFn) (k : LmsKey) (q : Nat) (hq : q < 2 ^ k.lms.h) :
    (List.range k.lms.h).foldl (fun (acc : List Bytes × Option ExpAux) i =>
      let (v, a) := treeNode H k (((2 ^ k.lms.h + q) / 2 ^ i) ^^^ 1) acc.2
      (acc.1 ++ [v], a)) ([], none) = (authPath H k q, none) := by
  have h := foldl_collect (Inv := (· = none)) (f := fun i => treeNode H k (((2 ^ k.lms.h + q) / 2 ^ i) ^^^ 1))
    (v := fun i => T H k i (((2 ^ k.lms.h + q) / 2 ^ i) ^^^ 1)) k.lms.h (s := none) (fun i hi s hs => by
      obtain ⟨hlo, hhi⟩ := sibling_level hq hi
      rw [hs, treeNode_none H k _ (k.lms.h - i) (Nat.sub_le _ _) hlo hhi, Nat.sub_sub_self (Nat.le_of_lt hi)]
      exact ⟨rfl, rfl⟩) rfl
  exact Prod.ext h.1 h.2

/-- the `if` is the one of the verifier's climb, which hashes `x` and its sibling in the order the parity of `x` gives -/
theorem T_parent (H : HashFn) (k : LmsKey) (d x : Nat) :
    (if x % 2 = 1 then H.h (k.I ++ Bytes.u32be (x / 2) ++ D_INTR ++ T H k d (x ^^^ 1) ++ T H k d x)
      else H.h (k.I ++ Bytes.u32be (x / 2) ++ D_INTR ++ T H k d x ++ T H k d (x ^^^ 1)))
      = T H k (d + 1) (x / 2) := by
  rw [T]
  -- `x ^^^ 1` has the same half as `x` and the other parity
  have h1 := Nat.div_add_mod x 2
  have h2 := Nat.div_add_mod (x ^^^ 1) 2
  rw [xor_one_div] at h2
  rcases Nat.mod_two_eq_zero_or_one x with hx | hx
  · have hm : (x ^^^ 1) % 2 = 1 :=
      Nat.xor_mod_two_eq_one.2 fun h => by rw [hx] at h; exact absurd (h.2 rfl) (by decide)
    rw [hm] at h2
    rw [hx, Nat.add_zero] at h1
    rw [if_neg (by rw [hx]; decide), ← h2, h1]
  · have hm : (x ^^^ 1) % 2 = 0 :=
      Nat.mod_two_ne_one.1 fun h => Nat.xor_mod_two_eq_one.1 h ⟨fun _ => rfl, fun _ => hx⟩
    rw [hm, Nat.add_zero] at h2
    rw [hx] at h1
    rw [if_pos hx, ← h2, h1]

/-- Algorithm 6a from the middle: at node `(2^h + q) / 2^i`, holding its value, with the siblings of levels
`i, …, h - 1` still to come -/
theorem rootFrom_siblings (H : HashFn) (k : LmsKey) (q : Nat) (hq : q < 2 ^ k.lms.h) :
    ∀ (d i : Nat), i + d = k.lms.h →
      Spec.rootFrom H k.I ((List.range' i d).map fun j => T H k j (((2 ^ k.lms.h + q) / 2 ^ j) ^^^ 1))
        ((2 ^ k.lms.h + q) / 2 ^ i) (T H k i ((2 ^ k.lms.h + q) / 2 ^ i)) = T H k k.lms.h 1 := by
  intro d
  induction d with
  | zero =>
    intro i hi
    obtain rfl : i = k.lms.h := by omega
    have h1 : (2 ^ k.lms.h + q) / 2 ^ k.lms.h = 1 :=
      Nat.div_eq_of_lt_le (by rw [Nat.one_mul]; exact Nat.le_add_right _ _)
        (by rw [Nat.succ_mul, Nat.one_mul]; exact Nat.add_lt_add_left hq _)
    rw [h1]
    rfl
  | succ d ih =>
    intro i hi
    -- one step: hash with the sibling, go to the parent
    rw [List.range'_succ, List.map_cons, Spec.rootFrom, Refine.u32str_eq, show Spec.D_INTR = D_INTR from rfl, T_parent,
      Nat.div_div_eq_div_mul, ← Nat.pow_succ]
    exact ih (i + 1) ((Nat.add_right_comm i 1 d).trans hi)

theorem climb_reaches_root (H : HashFn) (k : LmsKey) (q : Nat) (hq : q < 2 ^ k.lms.h) :
    climb H k.I (authPath H k q).flatten (k.lms.h + 1) (2 ^ k.lms.h + q) 0 (T H k 0 (2 ^ k.lms.h + q))
      = .ok (T H k k.lms.h 1) := by
  have hpath : ((List.range k.lms.h).map fun j => Bytes.slice (authPath H k q).flatten (H.n * j) H.n)
      = authPath H k q := by
    apply List.ext_getElem (by simp [authPath_length])
    intro j _ hj
    rw [List.getElem_map, List.getElem_range, Bytes.slice_flatten H.n _ j hj (authPath_mem_length H k q)]
  rw [Refine.climb_leaf H k.I _ k.lms.h q _ (authPath_flatten_length H k q) hq, hpath, authPath,
    List.range_eq_range']
  have h := rootFrom_siblings H k q hq k.lms.h 0 (Nat.zero_add _)
  rw [Nat.pow_zero, Nat.div_one] at h
  exact congrArg Except.ok h

end Lemmas.Complete
