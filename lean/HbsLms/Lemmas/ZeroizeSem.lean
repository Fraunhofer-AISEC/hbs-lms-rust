/-
The model of `zeroize()` and of drop glue (`Impl/ZeroizeSem.lean`), up to the two soundness facts behind
`Props/C16Sem.lean`: `wipedByZeroize` is sound for `zeroizeVal` (`zeroizeOk_val`) and `wipedOnDrop` for `dropVal`
(`fieldDropOk`). Both are stated for the content of a field, and both need that `owners ds` is closed under
`ownersStep` (`ownersStep_owners`).
-/
import HbsLms.Impl.ZeroizeSem

namespace Impl.ZeroizeSem

open Generated Impl.Zeroize

theorem Val.ind {P : Val → Prop} (raw : ∀ s bs, P (.raw s bs))
    (struct : ∀ i fs, (∀ v ∈ fs, P v) → P (.struct i fs))
    (many : ∀ vs, (∀ v ∈ vs, P v) → P (.many vs)) (v : Val) : P v :=
  Val.rec (motive_2 := fun vs => ∀ v ∈ vs, P v) raw struct many (fun _ h => nomatch h)
    (fun _ _ hv hvs => List.forall_mem_cons.2 ⟨hv, hvs⟩) v

/-- induction along the recursion of `dropVal`: the children of a struct are its fields as the drop glue finds them -/
theorem dropVal_ind (ds : List StructDecl) {P : Val → Prop} (raw : ∀ s bs, P (.raw s bs))
    (many : ∀ vs, (∀ v ∈ vs, P v) → P (.many vs))
    (struct : ∀ i fs, (∀ v ∈ preDrop ds i fs, P v) → P (.struct i fs)) (v : Val) : P v :=
  dropVal.induct ds P raw many (fun i fs ih => struct i fs fun v hv => ih ⟨v, hv⟩) v

theorem zeroizeAll_eq_map (ds : List StructDecl) (vs : List Val) :
    zeroizeAll ds vs = vs.map (zeroizeVal ds) := by
  induction vs with
  | nil => rfl
  | cons v vs ih => rw [zeroizeAll, ih, List.map_cons]

theorem secretsLeftAll_eq_zero {vs : List Val} :
    secretsLeftAll vs = 0 ↔ ∀ v ∈ vs, secretsLeft v = 0 := by
  induction vs with
  | nil => simp [secretsLeftAll]
  | cons v vs ih => simp [secretsLeftAll, ih]

theorem allFieldWt_iff {ds : List StructDecl} {f : FieldDecl} {vs : List Val} :
    allFieldWt ds f vs = true ↔ ∀ v ∈ vs, fieldWt ds f v = true := by
  induction vs with
  | nil => simp [allFieldWt]
  | cons v vs ih => simp [allFieldWt, ih]

theorem secretsLeftAll_map_le {g : Val → Val} {vs : List Val}
    (h : ∀ v ∈ vs, secretsLeft (g v) ≤ secretsLeft v) :
    secretsLeftAll (vs.map g) ≤ secretsLeftAll vs := by
  induction vs with
  | nil => simp
  | cons v vs ih =>
    simp only [List.map_cons, secretsLeftAll]
    have h1 := h v (by simp)
    have h2 := ih (fun w hw => h w (by simp [hw]))
    omega

theorem secretsLeft_raw_zero (s : Bool) (n : Nat) : secretsLeft (.raw s (List.replicate n 0)) = 0 := by
  simp [secretsLeft, List.countP_replicate]

theorem declAt_some {ds : List StructDecl} {i : Nat} {d : StructDecl} (h : declAt ds i = some d) :
    d ∈ ds ∧ d.idx = i := by
  unfold declAt at h
  refine ⟨List.mem_of_find?_eq_some h, ?_⟩
  have := List.find?_some h
  simpa using this

theorem fieldsWt_iff {ds : List StructDecl} : ∀ {gs : List FieldDecl} {vs : List Val},
    fieldsWt ds gs vs = true ↔ gs.length = vs.length ∧ ∀ p ∈ gs.zip vs, fieldWt ds p.1 p.2 = true
  | [], [] => by simp [fieldsWt]
  | [], _ :: _ => by simp [fieldsWt]
  | _ :: _, [] => by simp [fieldsWt]
  | g :: gs, v :: vs => by simp [fieldsWt, fieldsWt_iff (gs := gs) (vs := vs), and_left_comm]

theorem zeroizeFields_eq_map_zip {ds : List StructDecl} : ∀ {gs : List FieldDecl} {vs : List Val},
    gs.length = vs.length →
    zeroizeFields ds gs vs = (gs.zip vs).map fun p => if p.1.skip then p.2 else zeroizeVal ds p.2
  | [], [], _ => by simp
  | [], _ :: _, h => by simp at h
  | _ :: _, [], h => by simp at h
  | g :: gs, v :: vs, h => by simp [zeroizeFields, zeroizeFields_eq_map_zip (gs := gs) (vs := vs) (by simpa using h)]

theorem wellTyped_iff {ds : List StructDecl} {i : Nat} {fs : List Val} :
    WellTyped ds (.struct i fs) = true ↔ ∃ d, declAt ds i = some d ∧ fieldsWt ds d.fields fs = true := by
  rw [WellTyped]
  cases declAt ds i <;> simp

theorem fieldWt_struct {ds : List StructDecl} {f : FieldDecl} {i : Nat} {fs : List Val} :
    fieldWt ds f (.struct i fs) = true ↔
      f.rawSecret = false ∧ i ∈ f.owns ∧ WellTyped ds (.struct i fs) = true := by
  simp [fieldWt, WellTyped, and_assoc]

theorem mem_zip_of_mem_right {gs : List FieldDecl} {vs : List Val} (hl : gs.length = vs.length) {v : Val}
    (hv : v ∈ vs) : ∃ g, (g, v) ∈ gs.zip vs := by
  rw [← List.map_snd_zip (l₁ := gs) (l₂ := vs) (by omega)] at hv
  obtain ⟨⟨g, _⟩, hp, rfl⟩ := List.mem_map.1 hv
  exact ⟨g, hp⟩

theorem secretsLeftAll_zeroizeFields_le_of {ds : List StructDecl} :
    ∀ (gs : List FieldDecl) {vs : List Val}, (∀ v ∈ vs, secretsLeft (zeroizeVal ds v) ≤ secretsLeft v) →
      secretsLeftAll (zeroizeFields ds gs vs) ≤ secretsLeftAll vs
  | [], _, _ => by simp
  | _ :: _, [], _ => by simp [zeroizeFields]
  | g :: gs, v :: vs, h => by
    have ⟨hv, hvs⟩ := List.forall_mem_cons.1 h
    have := secretsLeftAll_zeroizeFields_le_of gs hvs
    simp only [zeroizeFields, secretsLeftAll]
    split <;> omega

theorem secretsLeft_zeroizeVal_le (ds : List StructDecl) (v : Val) :
    secretsLeft (zeroizeVal ds v) ≤ secretsLeft v := by
  induction v using Val.ind with
  | raw s bs => rw [zeroizeVal, secretsLeft_raw_zero]; exact Nat.zero_le _
  | many vs ih => rw [zeroizeVal, zeroizeAll_eq_map]; exact secretsLeftAll_map_le ih
  | struct i fs ih =>
    obtain ⟨gs, h⟩ := zeroizeVal_struct ds i fs
    rw [h]; exact secretsLeftAll_zeroizeFields_le_of gs ih

/- The mutual definitions unfold definitionally on `.many vs`, so each list statement is the value statement at
`.many vs`. -/
theorem secretsLeftAll_zeroizeAll_le (ds : List StructDecl) :
    ∀ vs : List Val, secretsLeftAll (zeroizeAll ds vs) ≤ secretsLeftAll vs :=
  fun vs => secretsLeft_zeroizeVal_le ds (.many vs)

theorem secretsLeft_dropVal_le (ds : List StructDecl) (v : Val) :
    secretsLeft (dropVal ds v) ≤ secretsLeft v := by
  induction v using dropVal_ind ds with
  | raw s bs => rw [dropVal_raw]; exact Nat.le_refl _
  | many vs ih => rw [dropVal_many]; exact secretsLeftAll_map_le ih
  | struct i fs ih =>
    rw [dropVal_struct]
    refine Nat.le_trans (secretsLeftAll_map_le ih) ?_
    obtain ⟨gs, h⟩ := preDrop_eq ds i fs
    rw [h]; exact secretsLeftAll_zeroizeFields_le_of gs fun v _ => secretsLeft_zeroizeVal_le ds v

theorem secretsLeft_dropVal_zero {ds : List StructDecl} {v : Val} (h : secretsLeft v = 0) :
    secretsLeft (dropVal ds v) = 0 :=
  Nat.eq_zero_of_le_zero (h ▸ secretsLeft_dropVal_le ds v)

theorem secretsLeft_zeroizeVal_zero {ds : List StructDecl} {v : Val} (h : secretsLeft v = 0) :
    secretsLeft (zeroizeVal ds v) = 0 :=
  Nat.eq_zero_of_le_zero (h ▸ secretsLeft_zeroizeVal_le ds v)

theorem fieldsWt_zeroizeFields_of {ds : List StructDecl} :
    ∀ (gs hs : List FieldDecl) {vs : List Val}, (∀ v ∈ vs, ∀ f, fieldWt ds f (zeroizeVal ds v) = fieldWt ds f v) →
      fieldsWt ds hs (zeroizeFields ds gs vs) = fieldsWt ds hs vs
  | [], _, _, _ => by simp
  | _ :: _, _, [], _ => by simp [zeroizeFields]
  | _ :: _, [], _ :: _, _ => by simp [zeroizeFields, fieldsWt]
  | g :: gs, h :: hs, v :: vs, ih => by
    have ⟨hv, hvs⟩ := List.forall_mem_cons.1 ih
    simp only [zeroizeFields, fieldsWt, fieldsWt_zeroizeFields_of gs hs hvs]
    split <;> simp [hv]

theorem allFieldWt_map {ds : List StructDecl} {f : FieldDecl} {g : Val → Val} {vs : List Val}
    (h : ∀ v ∈ vs, fieldWt ds f (g v) = fieldWt ds f v) : allFieldWt ds f (vs.map g) = allFieldWt ds f vs := by
  induction vs with
  | nil => rfl
  | cons v vs ih =>
    have ⟨hv, hvs⟩ := List.forall_mem_cons.1 h
    rw [List.map_cons, allFieldWt, allFieldWt, hv, ih hvs]

theorem fieldWt_zeroizeVal (ds : List StructDecl) (v : Val) :
    ∀ f : FieldDecl, fieldWt ds f (zeroizeVal ds v) = fieldWt ds f v := by
  induction v using Val.ind with
  | raw s bs => intro f; rfl
  | many vs ih =>
    intro f
    rw [zeroizeVal, zeroizeAll_eq_map, fieldWt, fieldWt]
    exact allFieldWt_map fun v hv => ih v hv f
  | struct i fs ih =>
    intro f
    obtain ⟨gs, h⟩ := zeroizeVal_struct ds i fs
    simp only [h, fieldWt, fieldsWt_zeroizeFields_of gs _ ih]

theorem allFieldWt_zeroizeAll (ds : List StructDecl) :
    ∀ (vs : List Val) (f : FieldDecl), allFieldWt ds f (zeroizeAll ds vs) = allFieldWt ds f vs :=
  fun vs => fieldWt_zeroizeVal ds (.many vs)

theorem wellTyped_zeroizeVal (ds : List StructDecl) (i : Nat) (fs : List Val) :
    WellTyped ds (zeroizeVal ds (.struct i fs)) = WellTyped ds (.struct i fs) := by
  obtain ⟨gs, h⟩ := zeroizeVal_struct ds i fs
  simp only [h, WellTyped, fieldsWt_zeroizeFields_of gs _ fun v _ => fieldWt_zeroizeVal ds v]

theorem secretsLeft_zeroizeVal_rawSecret (ds : List StructDecl) (f : FieldDecl) (hf : f.rawSecret = true) (v : Val) :
    fieldWt ds f v = true → secretsLeft (zeroizeVal ds v) = 0 := by
  induction v using Val.ind with
  | raw s bs => intro _; rw [zeroizeVal, secretsLeft_raw_zero]
  | many vs ih =>
    intro h
    rw [fieldWt, allFieldWt_iff] at h
    rw [zeroizeVal, zeroizeAll_eq_map, secretsLeft, secretsLeftAll_eq_zero]
    exact List.forall_mem_map.2 fun w hw => ih w hw (h w hw)
  | struct i fs => intro h; simp [fieldWt, hf] at h

theorem secretsLeftAll_zeroizeAll_rawSecret (ds : List StructDecl) (f : FieldDecl) (hf : f.rawSecret = true) :
    ∀ vs : List Val, allFieldWt ds f vs = true → secretsLeftAll (zeroizeAll ds vs) = 0 :=
  fun vs h => secretsLeft_zeroizeVal_rawSecret ds f hf (.many vs) h

def ownPred (acc : List Nat) (d : StructDecl) : Bool := d.fields.any (fieldSecret acc)

theorem ownersStep_eq (ds : List StructDecl) (acc : List Nat) :
    ownersStep ds acc = (ds.filter (ownPred acc)).map (·.idx) := rfl

theorem ownPred_mono {acc acc' : List Nat} (h : ∀ x ∈ acc, x ∈ acc') {d : StructDecl}
    (hd : ownPred acc d = true) : ownPred acc' d = true := by
  simp only [ownPred, fieldSecret, List.any_eq_true, Bool.or_eq_true, List.contains_iff_mem] at hd ⊢
  obtain ⟨f, hf, h1⟩ := hd
  refine ⟨f, hf, ?_⟩
  rcases h1 with h1 | ⟨j, hj, hj'⟩
  · exact Or.inl h1
  · exact Or.inr ⟨j, hj, h j hj'⟩

/-- stage `k` of the iteration, as a predicate on declarations -/
def stagePred (ds : List StructDecl) : Nat → StructDecl → Bool
  | 0 => fun _ => false
  | k+1 => ownPred ((ds.filter (stagePred ds k)).map (·.idx))

def ownersIter (ds : List StructDecl) (k : Nat) : List Nat :=
  (List.range k).foldl (fun acc _ => ownersStep ds acc) []

theorem ownersIter_succ (ds : List StructDecl) (k : Nat) :
    ownersIter ds (k+1) = ownersStep ds (ownersIter ds k) := by
  simp [ownersIter, List.range_succ, List.foldl_append]

theorem ownersIter_eq (ds : List StructDecl) (k : Nat) :
    ownersIter ds k = (ds.filter (stagePred ds k)).map (·.idx) := by
  induction k with
  | zero => simp [ownersIter, stagePred]
  | succ k ih => rw [ownersIter_succ, ih, ownersStep_eq]; rfl

theorem stagePred_mono (ds : List StructDecl) :
    ∀ (k : Nat) (d : StructDecl), stagePred ds k d = true → stagePred ds (k+1) d = true := by
  intro k
  induction k with
  | zero => intro d h; simp [stagePred] at h
  | succ k ih =>
    intro d h
    refine ownPred_mono ?_ h
    intro x hx
    simp only [List.mem_map, List.mem_filter] at hx ⊢
    obtain ⟨d', ⟨hd', hq⟩, rfl⟩ := hx
    exact ⟨d', ⟨hd', ih d' hq⟩, rfl⟩

theorem filter_sublist_of_imp {α : Type} {p p' : α → Bool} (h : ∀ a, p a = true → p' a = true) (l : List α) :
    (l.filter p).Sublist (l.filter p') := by
  have : l.filter p = (l.filter p').filter p := by
    rw [List.filter_filter]
    exact List.filter_congr fun a _ => by cases hp : p a <;> simp [h a, hp]
  rw [this]
  exact List.filter_sublist

theorem stage_stable (ds : List StructDecl) (k : Nat)
    (h : ds.filter (stagePred ds k) = ds.filter (stagePred ds (k+1))) :
    ∀ m, ds.filter (stagePred ds (k+m)) = ds.filter (stagePred ds (k+m+1)) := by
  intro m
  induction m with
  | zero => exact h
  | succ m ih =>
    -- the next stage is computed from the filtered list alone
    have : stagePred ds (k+m+2) = stagePred ds (k+m+1) := by
      show ownPred ((ds.filter (stagePred ds (k+m+1))).map (·.idx)) = ownPred ((ds.filter (stagePred ds (k+m))).map (·.idx))
      rw [ih]
    show ds.filter (stagePred ds (k+m+1)) = ds.filter (stagePred ds (k+m+2))
    rw [this]

theorem stage_growth (ds : List StructDecl) :
    ∀ k, (∃ j, j < k ∧ ds.filter (stagePred ds j) = ds.filter (stagePred ds (j+1))) ∨
      k ≤ (ds.filter (stagePred ds k)).length := by
  intro k
  induction k with
  | zero => exact Or.inr (Nat.zero_le _)
  | succ k ih =>
    rcases ih with ⟨j, hj, he⟩ | hk
    · exact Or.inl ⟨j, by omega, he⟩
    · have hm := filter_sublist_of_imp (stagePred_mono ds k) ds
      by_cases he : ds.filter (stagePred ds k) = ds.filter (stagePred ds (k+1))
      · exact Or.inl ⟨k, by omega, he⟩
      · right
        have := hm.length_le
        have : (ds.filter (stagePred ds k)).length ≠ (ds.filter (stagePred ds (k+1))).length :=
          fun hl => he (hm.eq_of_length hl)
        omega

/-- the stages are filters of `ds` that grow as sublists: two consecutive ones are equal, and then so are all later
ones, or the second is longer, which cannot happen `ds.length + 1` times -/
theorem ownersStep_owners (ds : List StructDecl) : ownersStep ds (owners ds) = owners ds := by
  have h1 : owners ds = ownersIter ds ds.length := rfl
  rw [h1, ← ownersIter_succ, ownersIter_eq, ownersIter_eq]
  rcases stage_growth ds (ds.length + 1) with ⟨j, hj, he⟩ | hk
  · have := stage_stable ds j he (ds.length - j)
    have e : j + (ds.length - j) = ds.length := by omega
    rw [e] at this
    rw [this]
  · have := List.length_filter_le (stagePred ds (ds.length + 1)) ds
    omega

theorem mem_owners_of_fieldSecret {ds : List StructDecl} {i : Nat} {d : StructDecl}
    (h : declAt ds i = some d) {f : FieldDecl} (hf : f ∈ d.fields)
    (hs : fieldSecret (owners ds) f = true) : i ∈ owners ds := by
  obtain ⟨hd, hi⟩ := declAt_some h
  rw [← ownersStep_owners, ownersStep_eq]
  simp only [List.mem_map, List.mem_filter]
  refine ⟨d, ⟨hd, ?_⟩, hi⟩
  simp only [ownPred, List.any_eq_true]
  exact ⟨f, hf, hs⟩

theorem fieldSecret_false_of_not_mem {ds : List StructDecl} {i : Nat} {d : StructDecl}
    (h : declAt ds i = some d) (hi : ¬ i ∈ owners ds) {f : FieldDecl} (hf : f ∈ d.fields) :
    fieldSecret (owners ds) f = false := by
  cases hs : fieldSecret (owners ds) f
  · rfl
  · exact absurd (mem_owners_of_fieldSecret h hf hs) hi

theorem fieldSecret_eq_false {own : List Nat} {f : FieldDecl} :
    fieldSecret own f = false ↔ f.rawSecret = false ∧ ∀ i ∈ f.owns, ¬ i ∈ own := by
  simp [fieldSecret]

theorem secretsLeftAll_fields_of {ds : List StructDecl} {gs : List FieldDecl} {vs : List Val}
    (hwt : fieldsWt ds gs vs = true) (h : ∀ p ∈ gs.zip vs, fieldWt ds p.1 p.2 = true → secretsLeft p.2 = 0) :
    secretsLeftAll vs = 0 := by
  obtain ⟨hl, hty⟩ := fieldsWt_iff.1 hwt
  rw [secretsLeftAll_eq_zero]
  intro v hv
  obtain ⟨g, hp⟩ := mem_zip_of_mem_right hl hv
  exact h _ hp (hty _ hp)

theorem secretsLeft_of_fieldSecret_false (ds : List StructDecl) (v : Val) :
    ∀ f : FieldDecl, fieldWt ds f v = true → fieldSecret (owners ds) f = false → secretsLeft v = 0 := by
  induction v using Val.ind with
  | raw s bs =>
    intro f h hs
    have := (fieldSecret_eq_false.1 hs).1
    simp only [fieldWt, this, beq_iff_eq] at h
    simp [secretsLeft, h]
  | many vs ih =>
    intro f h hs
    rw [fieldWt, allFieldWt_iff] at h
    rw [secretsLeft, secretsLeftAll_eq_zero]
    exact fun w hw => ih w hw f (h w hw) hs
  | struct i fs ih =>
    intro f h hs
    obtain ⟨_, hi, hwt⟩ := fieldWt_struct.1 h
    obtain ⟨d, hd, h⟩ := wellTyped_iff.1 hwt
    exact secretsLeftAll_fields_of h fun p hp hty => ih p.2 (List.of_mem_zip hp).2 p.1 hty
      (fieldSecret_false_of_not_mem hd ((fieldSecret_eq_false.1 hs).2 i hi) (List.of_mem_zip hp).1)

theorem secretsLeftAll_of_fieldSecret_false (ds : List StructDecl) :
    ∀ (vs : List Val) (f : FieldDecl), allFieldWt ds f vs = true → fieldSecret (owners ds) f = false →
      secretsLeftAll vs = 0 :=
  fun vs f h hs => secretsLeft_of_fieldSecret_false ds (.many vs) f h hs

theorem secretsLeft_of_not_mem_owners (ds : List StructDecl) (i : Nat) (fs : List Val)
    (hwt : WellTyped ds (.struct i fs) = true) (hi : ¬ i ∈ owners ds) :
    secretsLeft (.struct i fs) = 0 := by
  obtain ⟨d, hd, h⟩ := wellTyped_iff.1 hwt
  exact secretsLeftAll_fields_of h fun p hp hty => secretsLeft_of_fieldSecret_false ds p.2 p.1 hty
    (fieldSecret_false_of_not_mem hd hi (List.of_mem_zip hp).1)

def Wiped (ds : List StructDecl) (i : Nat) : Prop := ∃ fuel, wipedOnDrop ds (owners ds) fuel i = true

/-- `DeriveSound` and `ZeroizeSound` both have the shape "every struct with `c` has, in every non-skipped field, only
owned secret-bearing structs with `W`" -/
theorem sound_use {ds : List StructDecl} {own : List Nat} {c : StructDecl → Bool} {W : Nat → Bool}
    (h : (ds.all fun d => !c d || d.fields.all fun f => f.skip || (f.owns.filter (own.contains ·)).all W) = true)
    {d : StructDecl} (hd : d ∈ ds) (hc : c d = true) {g : FieldDecl} (hg : g ∈ d.fields) (hs : g.skip = false)
    {j : Nat} (hj : j ∈ g.owns) (hjo : j ∈ own) : W j = true := by
  simp only [List.all_eq_true, Bool.or_eq_true, Bool.not_eq_true', List.mem_filter, List.contains_iff_mem] at h
  rcases h d hd with h | h
  · rw [hc] at h; cases h
  · rcases h g hg with h | h
    · rw [hs] at h; cases h
    · exact h j ⟨hj, hjo⟩

theorem wipedOnDrop_unfold {ds : List StructDecl} {own : List Nat} {fuel i : Nat} {d : StructDecl}
    (hd : declAt ds i = some d) :
    wipedOnDrop ds own (fuel+1) i =
      if d.zeroize && d.zeroizeOnDrop then
        d.fields.all fun f => !(fieldSecret own f && f.skip)
      else
        d.fields.all fun f =>
          !f.rawSecret && (f.owns.filter (own.contains ·)).all fun j => wipedOnDrop ds own fuel j := by
  rw [wipedOnDrop, hd]

theorem wipedByZeroize_unfold {ds : List StructDecl} {own : List Nat} {i : Nat} {d : StructDecl}
    (hd : declAt ds i = some d) :
    wipedByZeroize ds own i = (d.zeroize && d.fields.all fun f => !(fieldSecret own f && f.skip)) := by
  rw [wipedByZeroize, hd]

/-- `post = id`: `zeroize()` alone; `post = dropVal ds`: the drop glue of a `ZeroizeOnDrop` struct -/
theorem secretsLeftAll_zeroizeFields_eq_zero {ds : List StructDecl} {post : Val → Val}
    (hpost : ∀ v, secretsLeft v = 0 → secretsLeft (post v) = 0) {gs : List FieldDecl} {vs : List Val}
    (hwt : fieldsWt ds gs vs = true) (hns : ∀ g ∈ gs, (fieldSecret (owners ds) g && g.skip) = false)
    (hz : ∀ p ∈ gs.zip vs, p.1.skip = false → secretsLeft (post (zeroizeVal ds p.2)) = 0) :
    secretsLeftAll ((zeroizeFields ds gs vs).map post) = 0 := by
  obtain ⟨hl, hwt⟩ := fieldsWt_iff.1 hwt
  rw [zeroizeFields_eq_map_zip hl, secretsLeftAll_eq_zero]
  simp only [List.mem_map]
  rintro _ ⟨_, ⟨⟨g, v⟩, hp, rfl⟩, rfl⟩
  cases hs : g.skip with
  | false => simpa [hs] using hz _ hp hs
  | true =>
    -- a skipped field carries no secret, so its value holds none
    have hg := hns g (List.of_mem_zip hp).1
    rw [hs, Bool.and_true] at hg
    simpa [hs] using hpost _ (secretsLeft_of_fieldSecret_false ds v g (hwt _ hp) hg)

theorem zeroizeOk_val (ds : List StructDecl) (hZ : ZeroizeSound ds = true) (v : Val) :
    ∀ f : FieldDecl, fieldWt ds f v = true →
      (∀ j ∈ f.owns, j ∈ owners ds → wipedByZeroize ds (owners ds) j = true) →
      secretsLeft (zeroizeVal ds v) = 0 := by
  induction v using Val.ind with
  | raw s bs => intros; rw [zeroizeVal, secretsLeft_raw_zero]
  | many vs ih =>
    intro f h ho
    rw [fieldWt, allFieldWt_iff] at h
    rw [zeroizeVal, secretsLeft, zeroizeAll_eq_map, secretsLeftAll_eq_zero]
    simp only [List.mem_map]
    rintro _ ⟨w, hw, rfl⟩
    exact ih w hw f (h w hw) ho
  | struct i fs ih =>
    intro f h ho
    obtain ⟨_, hif, hwt⟩ := fieldWt_struct.1 h
    by_cases hi : i ∈ owners ds
    · obtain ⟨d, hd, h⟩ := wellTyped_iff.1 hwt
      have hw := ho i hif hi
      rw [wipedByZeroize_unfold hd] at hw
      simp only [Bool.and_eq_true, List.all_eq_true, Bool.not_eq_true'] at hw
      simp only [zeroizeVal, hd, hw.1, if_true, secretsLeft]
      have := secretsLeftAll_zeroizeFields_eq_zero (post := id) (fun _ h => h) h hw.2
        (fun p hp hs => ih p.2 (List.of_mem_zip hp).2 p.1 ((fieldsWt_iff.1 h).2 p hp)
          (fun j hj hjo => sound_use hZ (declAt_some hd).1 hw.1 (List.of_mem_zip hp).1 hs hj hjo))
      rwa [List.map_id] at this
    · exact secretsLeft_zeroizeVal_zero (secretsLeft_of_not_mem_owners ds i fs hwt hi)

theorem zeroizeOk_all (ds : List StructDecl) (hZ : ZeroizeSound ds = true) :
    ∀ (vs : List Val) (f : FieldDecl), allFieldWt ds f vs = true →
      (∀ j ∈ f.owns, j ∈ owners ds → wipedByZeroize ds (owners ds) j = true) →
      secretsLeftAll (zeroizeAll ds vs) = 0 := by
  exact fun vs => zeroizeOk_val ds hZ (.many vs)

theorem zeroizeOk_fields (ds : List StructDecl) (hZ : ZeroizeSound ds = true) :
    ∀ (vs : List Val) (gs : List FieldDecl), fieldsWt ds gs vs = true →
      (∀ g ∈ gs, (fieldSecret (owners ds) g && g.skip) = false) →
      (∀ g ∈ gs, g.skip = false → ∀ j ∈ g.owns, j ∈ owners ds → wipedByZeroize ds (owners ds) j = true) →
      secretsLeftAll (zeroizeFields ds gs vs) = 0 := by
  intro vs gs h hns ho
  have := secretsLeftAll_zeroizeFields_eq_zero (post := id) (fun _ h => h) h hns
    (fun p hp hs => zeroizeOk_val ds hZ p.2 p.1 ((fieldsWt_iff.1 h).2 p hp) (ho p.1 (List.of_mem_zip hp).1 hs))
  rwa [List.map_id] at this

/-- the hypothesis on raw secret bytes carries the induction: a `ZeroizeOnDrop` parent has cleared them, and
`wipedOnDrop` allows any other parent no `rawSecret` field -/
theorem fieldDropOk (ds : List StructDecl) (hD : DeriveSound ds = true) (v : Val) :
    ∀ f : FieldDecl, fieldWt ds f v = true → (f.rawSecret = true → secretsLeft v = 0) →
      (∀ j ∈ f.owns, j ∈ owners ds → Wiped ds j) → secretsLeft (dropVal ds v) = 0 := by
  induction v using dropVal_ind ds with
  | raw s bs =>
    intro f hwt hraw _
    rw [dropVal_raw]
    cases s with
    | false => simp [secretsLeft]
    | true => exact hraw (by simpa [fieldWt] using hwt.symm)
  | many vs ih =>
    intro f hwt hraw hown
    rw [fieldWt, allFieldWt_iff] at hwt
    rw [dropVal_many]
    simp only [secretsLeft, secretsLeftAll_eq_zero, List.mem_map] at hraw ⊢
    rintro _ ⟨w, hw, rfl⟩
    exact ih w hw f (hwt w hw) (fun hr => hraw hr w hw) hown
  | struct i fs ih =>
    intro f hwt _ hown
    obtain ⟨_, hif, hwt'⟩ := fieldWt_struct.1 hwt
    by_cases hi : i ∈ owners ds
    · obtain ⟨d, hd, hwt⟩ := wellTyped_iff.1 hwt'
      obtain ⟨hl, hty⟩ := fieldsWt_iff.1 hwt
      obtain ⟨fuel, hw⟩ := hown i hif hi
      cases fuel with
      | zero => simp [wipedOnDrop] at hw
      | succ fuel =>
        rw [wipedOnDrop_unfold hd] at hw
        rw [dropVal_struct, secretsLeft]
        simp only [preDrop, hd] at ih ⊢
        cases hz : (d.zeroize && d.zeroizeOnDrop) with
        | true =>
          simp only [hz, if_true, List.all_eq_true, Bool.not_eq_true'] at hw ih ⊢
          refine secretsLeftAll_zeroizeFields_eq_zero (fun _ => secretsLeft_dropVal_zero) hwt hw ?_
          intro p hp hs
          refine ih (zeroizeVal ds p.2) ?_ p.1 (by rw [fieldWt_zeroizeVal]; exact hty p hp)
            (fun hr => secretsLeft_zeroizeVal_rawSecret ds p.1 hr p.2 (hty p hp))
            (fun j hj hjo => ⟨ds.length, sound_use hD (declAt_some hd).1 hz (List.of_mem_zip hp).1 hs hj hjo⟩)
          rw [zeroizeFields_eq_map_zip hl]
          exact List.mem_map.2 ⟨p, hp, by simp [hs]⟩
        | false =>
          simp only [hz, Bool.false_eq_true, if_false, List.all_eq_true, Bool.and_eq_true,
            Bool.not_eq_true', List.mem_filter, List.contains_iff_mem] at hw ih ⊢
          rw [secretsLeftAll_eq_zero]
          simp only [List.mem_map]
          rintro _ ⟨w, hw', rfl⟩
          obtain ⟨g, hp⟩ := mem_zip_of_mem_right hl hw'
          have hg := hw g (List.of_mem_zip hp).1
          exact ih w hw' g (hty _ hp) (fun hr => by rw [hg.1] at hr; cases hr)
            (fun j hj hjo => ⟨fuel, hg.2 j ⟨hj, hjo⟩⟩)
    · exact secretsLeft_dropVal_zero (secretsLeft_of_not_mem_owners ds i fs hwt' hi)

/-- the field that owns just struct `i`, so that a struct value on its own is the content of a field -/
def ownerField (i : Nat) : FieldDecl := ⟨"", "", false, [i], false⟩

theorem fieldWt_ownerField {ds : List StructDecl} {i : Nat} {fs : List Val}
    (hwt : WellTyped ds (.struct i fs) = true) : fieldWt ds (ownerField i) (.struct i fs) = true :=
  fieldWt_struct.2 ⟨rfl, List.mem_singleton_self i, hwt⟩

theorem forall_owns_ownerField {i : Nat} {W : Nat → Prop} (h : W i) : ∀ j ∈ (ownerField i).owns, W j :=
  fun _ hj => List.mem_singleton.1 hj ▸ h

theorem deriveSound_of_secretsCovered {ds : List StructDecl} (h : SecretsCovered ds = true) :
    DeriveSound ds = true := by
  simp only [SecretsCovered, List.all_eq_true] at h
  simp only [DeriveSound, List.all_eq_true]
  intro d _
  cases hz : (d.zeroize && d.zeroizeOnDrop) with
  | false => rfl
  | true =>
    simp only [Bool.not_true, Bool.false_or, List.all_eq_true, Bool.or_eq_true, List.mem_filter,
      List.contains_iff_mem]
    intro g _
    right
    intro j hj
    exact h j hj.2

theorem zeroizeFields_direct (ds : List StructDecl) :
    ∀ (vs : List Val) (gs : List FieldDecl), fieldsWt ds gs vs = true →
      (∀ g ∈ gs, (fieldSecret (owners ds) g && g.skip) = false) →
      ∀ p ∈ List.zip gs (zeroizeFields ds gs vs),
        (p.1.rawSecret = true ∨ fieldSecret (owners ds) p.1 = false) → secretsLeft p.2 = 0 := by
  intro vs
  induction vs with
  | nil => intro gs _ _ p hp; cases gs <;> simp [zeroizeFields] at hp
  | cons v vs ih =>
    intro gs hwt hns p hp hc
    cases gs with
    | nil => simp [fieldsWt] at hwt
    | cons g gs =>
      simp only [fieldsWt, Bool.and_eq_true] at hwt
      simp only [zeroizeFields, List.zip_cons_cons, List.mem_cons] at hp
      rcases hp with rfl | hp
      · have hg := hns g (by simp)
        simp only at hc ⊢
        rcases hc with hr | hf
        · have hsk : g.skip = false := by
            cases hsk : g.skip
            · rfl
            · simp [fieldSecret, hr, hsk] at hg
          simp only [hsk, Bool.false_eq_true, if_false]
          exact secretsLeft_zeroizeVal_rawSecret ds g hr v hwt.1
        · have h0 := secretsLeft_of_fieldSecret_false ds v g hwt.1 hf
          split
          · exact h0
          · exact secretsLeft_zeroizeVal_zero h0
      · exact ih gs hwt.2 (fun g' hg' => hns g' (by simp [hg'])) p hp hc

end Impl.ZeroizeSem
