/-
`HssPrivateKey::from`, `hssKeygen`, `signPrepare` and `getLifetime` as equations and read backwards. The levels of an
expanded key are a function of the key blob: the top tree derived from the seed, every further tree derived from the
one above it at that tree's current leaf, the leaves being the mixed-radix digits of the counter; `HssPrivateKey::from`
returns these levels with or without aux data. All of them look at the decoded parameter list only for its first entry
(`hssKeygen` and `signPrepare` for the height of the top tree that `getExpandedAuxData` wants), so `keygenTop` /
`signTop` is the only case split; `signBody` is what follows it in `signPrepare`.
-/
import HbsLms.Lemmas.Counter
import HbsLms.Lemmas.Monad

namespace Lemmas.Complete

open Impl

def rootKey (H : HashFn) (seed : Bytes) (p0 : HssParam) : LmsKey :=
  ⟨(rootSeedAndId H seed).2, (rootSeedAndId H seed).1, p0.ots, p0.lms⟩

theorem seedDerive_length (H : HashFn) (seed I : Bytes) (q j : Nat) : (seedDerive H seed I q j).length = H.n :=
  H.len_h _

theorem signatureRandomizer_length (H : HashFn) (seed I : Bytes) (q : Nat) :
    (signatureRandomizer H seed I q).length = H.n := seedDerive_length H _ _ _ _

/-- `16` is `ILEN`: an identifier is the first 16 bytes of a hash -/
theorem rootSeedAndId_I_length (H : HashFn) (seed : Bytes) : (rootSeedAndId H seed).2.length = min 16 H.n := by
  simp only [rootSeedAndId, List.length_take, H.len_h, Generated.ILEN]

theorem rootSeedAndId_seed_length (H : HashFn) (seed : Bytes) : (rootSeedAndId H seed).1.length = H.n := H.len_h _

theorem childSeedAndId_I_length (H : HashFn) (seed I : Bytes) (q : Nat) :
    (childSeedAndId H seed I q).2.length = min 16 H.n := by
  simp only [childSeedAndId, List.length_take, seedDerive_length, Generated.ILEN]

end Lemmas.Complete

namespace Lemmas.AuxCache

open Impl

/-- the parameter of the top tree, if the parameter bytes of the key decode -/
def signTop (H : HashFn) (cfg : Config) (k : RefKey) : Option HssParam :=
  (paramsOfBytes cfg H.n k.params).bind List.head?

theorem signTop_eq_some_iff {H : HashFn} {cfg : Config} {k : RefKey} {p0 : HssParam} :
    signTop H cfg k = some p0 ↔ ∃ rest, paramsOfBytes cfg H.n k.params = some (p0 :: rest) := by
  refine ⟨fun h => ?_, fun ⟨rest, h⟩ => by rw [signTop, h]; rfl⟩
  obtain ⟨ps, hp, hh⟩ := Option.bind_eq_some_iff.1 h
  cases ps with
  | nil => cases hh
  | cons p rest => cases hh; exact ⟨rest, hp⟩

theorem signTop_eq_none_iff {H : HashFn} {cfg : Config} {k : RefKey} :
    signTop H cfg k = none ↔
      paramsOfBytes cfg H.n k.params = none ∨ paramsOfBytes cfg H.n k.params = some [] := by
  unfold signTop
  cases paramsOfBytes cfg H.n k.params with
  | none => exact ⟨fun _ => .inl rfl, fun _ => rfl⟩
  | some ps =>
    cases ps with
    | nil => exact ⟨fun _ => .inr rfl, fun _ => rfl⟩
    | cons p0 rest => exact ⟨nofun, fun h => h.elim nofun nofun⟩

end Lemmas.AuxCache

namespace Lemmas.Layout

open Impl Lemmas.Complete Lemmas.AuxCache Spec

def childLevel (H : HashFn) (parent : Level) (p : HssParam) (q : Nat) : Level :=
  ⟨⟨(childSeedAndId H parent.key.seed parent.key.I parent.q).2,
    (childSeedAndId H parent.key.seed parent.key.I parent.q).1, p.ots, p.lms⟩, q⟩

def childrenOf (H : HashFn) (leaves : List Nat) : Nat → Level → List HssParam → List Level
  | _, _, [] => []
  | i, parent, p :: rest =>
    childLevel H parent p (leaves.getD i 0) :: childrenOf H leaves (i + 1) (childLevel H parent p (leaves.getD i 0)) rest

def leafVector (ps : List HssParam) (c : Nat) : List Nat := mixedRadix (ps.map (·.lms.h)) c

theorem leafVector_length (ps : List HssParam) (c : Nat) : (leafVector ps c).length = ps.length := by
  rw [leafVector, mixedRadix_length, List.length_map]

theorem leafVector_eq_leavesOfCounter (ps : List HssParam) (c : Nat) :
    leafVector ps c = leavesOfCounter (ps.map (·.lms.h)) c := (leavesOfCounter_eq _ c).symm

def topLevel (H : HashFn) (seed : Bytes) (p0 : HssParam) (rest : List HssParam) (c : Nat) : Level :=
  ⟨rootKey H seed p0, (leafVector (p0 :: rest) c).getD 0 0⟩

def lowerLevels (H : HashFn) (seed : Bytes) (p0 : HssParam) (rest : List HssParam) (c : Nat) : List Level :=
  childrenOf H (leafVector (p0 :: rest) c) 1 (topLevel H seed p0 rest c) rest

def levelParam (l : Level) : HssParam := ⟨l.key.ots, l.key.lms⟩

theorem childrenOf_length (H : HashFn) (leaves : List Nat) : ∀ (rest : List HssParam) (i : Nat) (parent : Level),
    (childrenOf H leaves i parent rest).length = rest.length := by
  intro rest
  induction rest with
  | nil => intro _ _; rfl
  | cons p rest ih => intro i parent; simp [childrenOf, ih]

theorem lowerLevels_length (H : HashFn) (seed : Bytes) (p0 : HssParam) (rest : List HssParam) (c : Nat) :
    (lowerLevels H seed p0 rest c).length = rest.length := childrenOf_length _ _ _ _ _

theorem childrenOf_params (H : HashFn) (leaves : List Nat) : ∀ (rest : List HssParam) (i : Nat) (parent : Level),
    (childrenOf H leaves i parent rest).map levelParam = rest := by
  intro rest
  induction rest with
  | nil => intro _ _; rfl
  | cons p rest ih =>
    intro i parent
    simp only [childrenOf, List.map_cons, ih]
    rfl

theorem childrenOf_getD_succ (H : HashFn) (lv : List Nat) (d : Level) : ∀ (rest : List HssParam) (i : Nat)
    (parent : Level) (j : Nat) (hj : j < rest.length),
    (parent :: childrenOf H lv i parent rest).getD (j + 1) d =
      childLevel H ((parent :: childrenOf H lv i parent rest).getD j d) rest[j] (lv.getD (i + j) 0) := by
  intro rest
  induction rest with
  | nil => intro _ _ j hj; cases hj
  | cons p rest ih =>
    intro i parent j hj
    cases j with
    | zero => rfl
    | succ j =>
      have := ih (i + 1) (childLevel H parent p (lv.getD i 0)) j (Nat.lt_of_succ_lt_succ hj)
      simpa only [childrenOf, List.getD_cons_succ, List.getElem_cons_succ, Nat.add_assoc, Nat.add_comm 1 j] using this

theorem levels_params (H : HashFn) (seed : Bytes) (p0 : HssParam) (rest : List HssParam) (c : Nat) :
    (topLevel H seed p0 rest c :: lowerLevels H seed p0 rest c).map levelParam = p0 :: rest := by
  simp only [List.map_cons, lowerLevels, childrenOf_params]
  rfl

theorem levels_heights (H : HashFn) (seed : Bytes) (p0 : HssParam) (rest : List HssParam) (c : Nat) :
    (topLevel H seed p0 rest c :: lowerLevels H seed p0 rest c).map (·.key.lms.h) = (p0 :: rest).map (·.lms.h) := by
  rw [← levels_params H seed p0 rest c, List.map_map]
  rfl

theorem childrenOf_forall (H : HashFn) (leaves : List Nat) {P : Level → Prop} : ∀ (rest : List HssParam) (i : Nat)
    (parent : Level), (∀ l p q, p ∈ rest → P l → P (childLevel H l p q)) → P parent →
    ∀ c ∈ childrenOf H leaves i parent rest, P c := by
  intro rest
  induction rest with
  | nil => intro _ _ _ _ c hc; cases hc
  | cons p rest ih =>
    intro i parent step hp c hc
    have hl := step parent p (leaves.getD i 0) List.mem_cons_self hp
    rcases List.mem_cons.1 hc with rfl | hc
    · exact hl
    · exact ih _ _ (fun l p' q hp' => step l p' q (List.mem_cons_of_mem _ hp')) hl c hc

theorem childrenOf_qs (H : HashFn) (lv : List Nat) : ∀ (rest : List HssParam) (i : Nat) (parent : Level),
    i + rest.length ≤ lv.length → (childrenOf H lv i parent rest).map (·.q) = (lv.drop i).take rest.length := by
  intro rest
  induction rest with
  | nil => intro _ _ _; rfl
  | cons p rest ih =>
    intro i parent hl
    rw [List.length_cons] at hl
    have hi : i < lv.length := by omega
    rw [childrenOf, List.map_cons, ih (i + 1) _ (by omega), List.length_cons, List.drop_eq_getElem_cons hi,
      List.take_succ_cons, List.getD_eq_getElem?_getD, List.getElem?_eq_getElem hi]
    rfl

theorem levels_qs (H : HashFn) (seed : Bytes) (p0 : HssParam) (rest : List HssParam) (c : Nat) :
    (topLevel H seed p0 rest c :: lowerLevels H seed p0 rest c).map (·.q) = leafVector (p0 :: rest) c := by
  have hl : (leafVector (p0 :: rest) c).length = rest.length + 1 := leafVector_length _ c
  rw [List.map_cons, lowerLevels, childrenOf_qs H _ rest 1 _ (by omega)]
  cases hv : leafVector (p0 :: rest) c with
  | nil => rw [hv] at hl; cases hl
  | cons a t =>
    have ht : rest.length = t.length := by rw [hv] at hl; exact (Nat.succ.inj hl).symm
    rw [ht, List.drop_one, List.tail_cons, List.take_length, topLevel, hv]
    rfl

theorem expandPrivateKey_of_params {H : HashFn} {cfg : Config} {k : RefKey} {p0 : HssParam} {rest : List HssParam}
    (hp : paramsOfBytes cfg H.n k.params = some (p0 :: rest)) (aux : Option ExpAux) :
    expandPrivateKey H cfg k aux =
      expandPrivateKey.go H cfg (leafVector (p0 :: rest) k.counter) 1 rest (topLevel H k.seed p0 rest k.counter)
        ⟨[topLevel H k.seed p0 rest k.counter], [], []⟩ aux true := by
  unfold expandPrivateKey
  simp only [hp, List.head?_cons, List.tail_cons, ← leafVector_eq_leavesOfCounter]
  rfl

theorem expandPrivateKey_noTop {H : HashFn} {cfg : Config} {k : RefKey} (hst : signTop H cfg k = none)
    (aux : Option ExpAux) : expandPrivateKey H cfg k aux = .ok none := by
  unfold expandPrivateKey
  rcases signTop_eq_none_iff.1 hst with hp | hp
  · rw [hp]; rfl
  · rw [hp]; rfl

theorem expandPrivateKey_go_levels (H : HashFn) (cfg : Config) (leaves : List Nat) : ∀ (rest : List HssParam) (i : Nat)
    (parent : Level) (acc : Expanded) (aux : Option ExpAux) (live : Bool) (ex : Expanded) (e : Option ExpAux),
    expandPrivateKey.go H cfg leaves i rest parent acc aux live = .ok (some (ex, e)) →
    ex.levels = acc.levels ++ childrenOf H leaves i parent rest := by
  intro rest
  induction rest with
  | nil =>
    intro i parent acc aux live ex e h
    obtain ⟨rfl, -⟩ := Prod.mk.inj (Option.some.inj (P.pure_eq_ok.1 h))
    exact (List.append_nil _).symm
  | cons p rest ih =>
    intro i parent acc aux live ex e h
    simp only [expandPrivateKey.go] at h
    obtain ⟨-, h⟩ := P.require_bind_eq_ok.1 h
    obtain ⟨r, -, h⟩ := P.bind_eq_ok.1 h
    cases r with
    | none => cases h
    | some sa =>
      rw [ih _ _ _ _ _ _ _ h, List.append_assoc]
      rfl

theorem expandPrivateKey_levels {H : HashFn} {cfg : Config} {k : RefKey} {aux : Option ExpAux} {ex : Expanded}
    {e : Option ExpAux} (h : expandPrivateKey H cfg k aux = .ok (some (ex, e))) :
    ∃ p0 rest, paramsOfBytes cfg H.n k.params = some (p0 :: rest) ∧
      ex.levels = topLevel H k.seed p0 rest k.counter :: lowerLevels H k.seed p0 rest k.counter := by
  cases hst : signTop H cfg k with
  | none => rw [expandPrivateKey_noTop hst] at h; cases h
  | some p0 =>
    obtain ⟨rest, hp⟩ := signTop_eq_some_iff.1 hst
    rw [expandPrivateKey_of_params hp] at h
    exact ⟨p0, rest, hp, expandPrivateKey_go_levels H cfg _ rest 1 _ _ _ _ ex e h⟩

theorem expandPrivateKey_shape {H : HashFn} {cfg : Config} {k : RefKey} {aux : Option ExpAux} {ex : Expanded}
    {e : Option ExpAux} (h : expandPrivateKey H cfg k aux = .ok (some (ex, e))) :
    ∃ ps, paramsOfBytes cfg H.n k.params = some ps ∧ ps ≠ [] ∧
      ex.levels.map (·.key.lms.h) = ps.map (·.lms.h) ∧
      ex.levels.map (·.q) = leavesOfCounter (ps.map (·.lms.h)) k.counter := by
  obtain ⟨p0, rest, hps, hl⟩ := expandPrivateKey_levels h
  refine ⟨_, hps, List.cons_ne_nil _ _, ?_, ?_⟩
  · rw [hl, levels_heights]
  · rw [hl, levels_qs, leafVector_eq_leavesOfCounter]

end Lemmas.Layout

open Impl

namespace Lemmas.AuxCache

def topKey (H : HashFn) (seed : Bytes) (p0 : HssParam) : LmsKey :=
  ⟨(rootSeedAndId H seed).2, (rootSeedAndId H seed).1, p0.ots, p0.lms⟩

theorem topKey_eq_rootKey (H : HashFn) (seed : Bytes) (p0 : HssParam) :
    topKey H seed p0 = Lemmas.Complete.rootKey H seed p0 := rfl

def keygenTop (H : HashFn) (cfg : Config) (ps : List HssParam) : Option HssParam :=
  match bytesOfParams cfg H.n ps with
  | .ok (some pb) => (paramsOfBytes cfg H.n pb).bind List.head?
  | _ => none

theorem keygenTop_eq_some {H : HashFn} {cfg : Config} {ps : List HssParam} {p0 : HssParam}
    (h : keygenTop H cfg ps = some p0) :
    ∃ pb ps', bytesOfParams cfg H.n ps = .ok (some pb) ∧ paramsOfBytes cfg H.n pb = some ps' ∧
      ps'.head? = some p0 := by
  unfold keygenTop at h
  split at h
  · rename_i pb hb
    obtain ⟨ps', hp, hh⟩ := Option.bind_eq_some_iff.1 h
    exact ⟨pb, ps', hb, hp, hh⟩
  · cases h

theorem keygenTop_eq_none_iff {H : HashFn} {cfg : Config} {ps : List HssParam} :
    keygenTop H cfg ps = none ↔ ∀ pb ps', bytesOfParams cfg H.n ps = .ok (some pb) →
      paramsOfBytes cfg H.n pb = some ps' → ps'.head? = none := by
  constructor
  · intro h pb ps' hb hp
    rw [keygenTop, hb] at h
    dsimp only at h
    rw [hp] at h
    exact h
  · intro h
    cases ht : keygenTop H cfg ps with
    | none => rfl
    | some p0 =>
      obtain ⟨pb, ps', hb, hp, hh⟩ := keygenTop_eq_some ht
      cases (h pb ps' hb hp).symm.trans hh

/-- `used` in `hssKeygen` -/
def auxUsed (aux : Option Bytes) : Bool :=
  match aux with
  | some b => hss_is_aux_data_used b
  | none => false

def keygenResult (pb seed : Bytes) (L : Nat) (key0 : LmsKey) (root : Bytes) : Option (Bytes × Bytes) :=
  if (⟨0, pb, seed⟩ : RefKey).bytes.length > Config.maxPrivKeyLen then none
  else if (Bytes.u32be L ++ lmsPublicKeyBytes key0 root).length > Config.maxHssPkLen then none
  else some ((⟨0, pb, seed⟩ : RefKey).bytes, Bytes.u32be L ++ lmsPublicKeyBytes key0 root)

theorem keygenResult_eq_some {pb seed : Bytes} {L : Nat} {key0 : LmsKey} {root skb vk : Bytes}
    (h : keygenResult pb seed L key0 root = some (skb, vk)) :
    skb = Bytes.u64be 0 ++ pb ++ seed ∧ vk = Bytes.u32be L ++ lmsPublicKeyBytes key0 root := by
  unfold keygenResult at h
  split at h
  · cases h
  · split at h
    · cases h
    · cases h
      exact ⟨rfl, rfl⟩

/-- a buffer that was unmarked on entry gets its MAC -/
def keygenView (H : HashFn) (cfg : Config) (seed : Bytes) (aux : Option Bytes) (e1 : Option ExpAux) : Option ExpAux :=
  if auxUsed aux = true then e1 else e1.map fun e => hss_finalize_aux_data H cfg e seed

theorem hssKeygen_eq {H : HashFn} {cfg : Config} {ps : List HssParam} {pb : Bytes} {ps' : List HssParam}
    {p0 : HssParam} (hb : bytesOfParams cfg H.n ps = .ok (some pb)) (hp : paramsOfBytes cfg H.n pb = some ps')
    (hh : ps'.head? = some p0) (seed : Bytes) (aux : Option Bytes) :
    hssKeygen H cfg ps seed aux = .ok
      ⟨keygenResult pb seed ps'.length (topKey H seed p0)
          (treeNode H (topKey H seed p0) 1 (getExpandedAuxData H cfg aux seed p0.lms.h).1).1,
        auxAfter (keygenView H cfg seed aux
          (treeNode H (topKey H seed p0) 1 (getExpandedAuxData H cfg aux seed p0.lms.h).1).2)
          (getExpandedAuxData H cfg aux seed p0.lms.h).2.1,
        (getExpandedAuxData H cfg aux seed p0.lms.h).2.2⟩ := by
  unfold hssKeygen
  rw [hb, P.ok_bind]
  simp only [hp, hh]
  -- the two capacity checks at the end decide the result only; the aux buffer is written back in every case
  unfold keygenResult topKey
  generalize (⟨(rootSeedAndId H seed).2, (rootSeedAndId H seed).1, p0.ots, p0.lms⟩ : LmsKey) = key0
  generalize treeNode H key0 1 _ = tn
  generalize (⟨0, pb, seed⟩ : RefKey).bytes = kb
  by_cases h1 : kb.length > Config.maxPrivKeyLen
  · rw [if_pos h1, if_pos h1]; rfl
  · rw [if_neg h1, if_neg h1]
    by_cases h2 : (Bytes.u32be ps'.length ++ lmsPublicKeyBytes key0 tn.1).length > Config.maxHssPkLen
    · rw [if_pos h2, if_pos h2]; rfl
    · rw [if_neg h2, if_neg h2]; rfl

theorem hssKeygen_noTop {H : HashFn} {cfg : Config} {ps : List HssParam} (h : keygenTop H cfg ps = none)
    (seed : Bytes) (aux : Option Bytes) :
    hssKeygen H cfg ps seed aux = (bytesOfParams cfg H.n ps).map fun _ => ⟨none, aux, []⟩ := by
  unfold hssKeygen
  cases hb : bytesOfParams cfg H.n ps with
  | error f => rfl
  | ok o =>
    cases o with
    | none => rfl
    | some pb =>
      rw [P.ok_bind]
      dsimp only
      cases hp : paramsOfBytes cfg H.n pb with
      | none => rfl
      | some ps' =>
        dsimp only
        rw [keygenTop_eq_none_iff.1 h pb ps' hb hp]
        rfl

/-- `signPrepare` from `HssPrivateKey::from` on; `g` is what `getExpandedAuxData` returned. The body repeats the text of
`Impl.signPrepare` after its aux lookup (`signPrepare_of_top` closes by `rfl` after the lookup is rewritten), so a
change there has to be made here too. -/
def signBody (H : HashFn) (cfg : Config) (msg : Bytes) (k : RefKey) (g : Option ExpAux × Option Bytes × Bytes) :
    P Prepared := do
  let some (ex, e1) ← expandPrivateKey H cfg k g.1 | return .failed (auxAfter g.1 g.2.1) g.2.2
  let L := ex.levels.length
  let some bottom := ex.levels.getLast? | return .failed (auxAfter e1 g.2.1) g.2.2
  let C := signatureRandomizer H bottom.key.seed bottom.key.I bottom.q
  let r ← lmsSign H cfg bottom.key bottom.q msg C (if L == 1 then e1 else none)
  let some (bsig, e2') := r | return .failed (auxAfter e1 g.2.1) g.2.2
  let e2 := if L == 1 then e2' else e1
  let spks := (List.range (L - 1)).map fun i => ex.sigs.getD i [] ++ ex.pubs.getD i []
  P.require "hss/signing.rs:HssSignedPublicKey::to_binary_representation capacity"
    (spks.all fun s => s.length ≤ cfg.maxSignedPkLen)
  let sigBytes := Bytes.u32be (L - 1) ++ spks.flatten ++ bsig
  P.require "hss/signing.rs:HssSignature::to_binary_representation capacity" (sigBytes.length ≤ cfg.maxHssSigLen)
  let hs := ex.levels.map (·.key.lms.h)
  P.require "hss/reference_impl_private_key.rs:to_binary_representation capacity"
    ((k.increment H.n hs).bytes.length ≤ Config.maxPrivKeyLen)
  pure (.ready hs sigBytes (auxAfter e2 g.2.1) g.2.2)

theorem signPrepare_of_top {H : HashFn} {cfg : Config} {k : RefKey} {p0 : HssParam}
    (hst : signTop H cfg k = some p0) (msg : Bytes) (aux : Option Bytes) :
    signPrepare H cfg msg k aux = signBody H cfg msg k (getExpandedAuxData H cfg aux k.seed p0.lms.h) := by
  obtain ⟨rest, hp⟩ := signTop_eq_some_iff.1 hst
  unfold signPrepare signBody
  simp only [hp, List.head?_cons]
  rfl

theorem signPrepare_noTop (H : HashFn) (cfg : Config) (msg : Bytes) (k : RefKey) (aux : Option Bytes)
    (hst : signTop H cfg k = none) : signPrepare H cfg msg k aux = .ok (.failed aux []) := by
  unfold signPrepare
  rcases signTop_eq_none_iff.1 hst with hp | hp
  · rw [hp]; rfl
  · rw [hp]; rfl

theorem signBody_ready_inv {H : HashFn} {cfg : Config} {msg : Bytes} {k : RefKey}
    {g : Option ExpAux × Option Bytes × Bytes} {hs : List Nat} {sig : Bytes} {a : Option Bytes} {r : Bytes}
    (h : signBody H cfg msg k g = .ok (.ready hs sig a r)) :
    ∃ ex e1 bottom bsig e2',
      expandPrivateKey H cfg k g.1 = .ok (some (ex, e1)) ∧
      ex.levels.getLast? = some bottom ∧
      lmsSign H cfg bottom.key bottom.q msg (signatureRandomizer H bottom.key.seed bottom.key.I bottom.q)
        (if ex.levels.length == 1 then e1 else none) = .ok (some (bsig, e2')) ∧
      hs = ex.levels.map (·.key.lms.h) ∧
      sig = Bytes.u32be (ex.levels.length - 1) ++
        ((List.range (ex.levels.length - 1)).map fun i => ex.sigs.getD i [] ++ ex.pubs.getD i []).flatten ++ bsig ∧
      a = auxAfter (if ex.levels.length == 1 then e2' else e1) g.2.1 ∧ r = g.2.2 := by
  unfold signBody at h
  obtain ⟨v, hex, h⟩ := P.bind_eq_ok.1 h
  cases v with
  | none => cases h
  | some exe =>
    obtain ⟨ex, e1⟩ := exe
    cases hlast : ex.levels.getLast? with
    | none => simp only [hlast] at h; cases h
    | some bottom =>
      simp only [hlast] at h
      obtain ⟨v2, hsign, h⟩ := P.bind_eq_ok.1 h
      cases v2 with
      | none => cases h
      | some be =>
        obtain ⟨bsig, e2'⟩ := be
        obtain ⟨-, h⟩ := P.require_bind_eq_ok.1 h
        obtain ⟨-, h⟩ := P.require_bind_eq_ok.1 h
        obtain ⟨-, h⟩ := P.require_bind_eq_ok.1 h
        obtain ⟨rfl, rfl, rfl, rfl⟩ := Prepared.ready.inj (P.pure_eq_ok.1 h)
        exact ⟨ex, e1, bottom, bsig, e2', hex, hlast, hsign, rfl, rfl, rfl, rfl⟩

/-- The case split of a signing call on key bytes. The left case is stated for every parse, so that it covers the bytes
that do not parse as well. -/
theorem signTop_cases (H : HashFn) (cfg : Config) (sk : Bytes) :
    (∀ k, RefKey.parse H.n sk = some k → signTop H cfg k = none) ∨
    ∃ k p0, RefKey.parse H.n sk = some k ∧ signTop H cfg k = some p0 := by
  cases hk : RefKey.parse H.n sk with
  | none => exact Or.inl fun k h => nomatch h
  | some k =>
    cases hst : signTop H cfg k with
    | none => exact Or.inl fun k' h => by cases h; exact hst
    | some p0 => exact Or.inr ⟨k, p0, rfl, hst⟩

theorem signPrepare_ready_inv {H : HashFn} {cfg : Config} {msg : Bytes} {k : RefKey} {aux : Option Bytes}
    {hs : List Nat} {sig : Bytes} {a : Option Bytes} {r : Bytes}
    (h : signPrepare H cfg msg k aux = .ok (.ready hs sig a r)) :
    ∃ p0 rest, paramsOfBytes cfg H.n k.params = some (p0 :: rest) ∧
      signBody H cfg msg k (getExpandedAuxData H cfg aux k.seed p0.lms.h) = .ok (.ready hs sig a r) := by
  cases hst : signTop H cfg k with
  | none => rw [signPrepare_noTop H cfg msg k aux hst] at h; cases h
  | some p0 =>
    obtain ⟨rest, hps⟩ := signTop_eq_some_iff.1 hst
    exact ⟨p0, rest, hps, signPrepare_of_top hst msg aux ▸ h⟩

theorem signPrepare_ready_shape {H : HashFn} {cfg : Config} {msg : Bytes} {k : RefKey} {aux : Option Bytes}
    {hs : List Nat} {sig : Bytes} {a : Option Bytes} {r : Bytes}
    (h : signPrepare H cfg msg k aux = .ok (.ready hs sig a r)) :
    ∃ ps, paramsOfBytes cfg H.n k.params = some ps ∧ ps ≠ [] ∧ hs = ps.map (·.lms.h) ∧
      ∃ e0 ex e1, expandPrivateKey H cfg k e0 = .ok (some (ex, e1)) ∧
        ex.levels.map (·.q) = leavesOfCounter hs k.counter := by
  obtain ⟨p0, rest, hps, hb⟩ := signPrepare_ready_inv h
  obtain ⟨ex, e1, -, -, -, hex, -, -, rfl, -⟩ := signBody_ready_inv hb
  obtain ⟨ps, hps', hne, hh, hq⟩ := Layout.expandPrivateKey_shape hex
  cases hps.symm.trans hps'
  exact ⟨_, hps, hne, hh, _, ex, e1, hex, hh ▸ hq⟩

end Lemmas.AuxCache

namespace Lemmas

open AuxCache

theorem expandPrivateKey_undecodable {H : HashFn} {cfg : Config} {k : RefKey}
    (hp : paramsOfBytes cfg H.n k.params = none) (aux : Option ExpAux) : expandPrivateKey H cfg k aux = .ok none :=
  Layout.expandPrivateKey_noTop (signTop_eq_none_iff.2 (.inl hp)) aux

theorem signPrepare_undecodable {H : HashFn} {cfg : Config} {k : RefKey}
    (hp : paramsOfBytes cfg H.n k.params = none) (msg : Bytes) (aux : Option Bytes) :
    signPrepare H cfg msg k aux = .ok (.failed aux []) :=
  signPrepare_noTop H cfg msg k aux (signTop_eq_none_iff.2 (.inl hp))

/-- the steps of `SigningKey::get_lifetime`: `from_bytes` (the length test), `from_binary_representation`,
`HssPrivateKey::from`, `get_lifetime` on the expanded key -/
theorem getLifetime_eq (H : HashFn) (cfg : Config) (sk : Bytes) :
    getLifetime H cfg sk =
      if sk.length > Config.maxPrivKeyLen then .ok none
      else match RefKey.parse H.n sk with
        | none => .ok none
        | some k => (expandPrivateKey H cfg k none).map
            (Option.map fun e => lifetimeOf (e.1.levels.map (·.key.lms.h)) (e.1.levels.map (·.q))) := by
  unfold getLifetime
  split
  · rfl
  · cases RefKey.parse H.n sk with
    | none => rfl
    | some k =>
      dsimp only
      cases expandPrivateKey H cfg k none with
      | error e => rfl
      | ok r => cases r <;> rfl

theorem getLifetime_of_parse_none {H : HashFn} {sk : Bytes} (hk : RefKey.parse H.n sk = none) (cfg : Config) :
    getLifetime H cfg sk = .ok none := by
  rw [getLifetime_eq, hk]
  exact ite_self _

theorem getLifetime_value {H : HashFn} {cfg : Config} {sk : Bytes} {L : Nat}
    (h : getLifetime H cfg sk = .ok (some L)) :
    ∃ k ps, RefKey.parse H.n sk = some k ∧ paramsOfBytes cfg H.n k.params = some ps ∧ ps ≠ [] ∧
      L = lifetimeOf (ps.map (·.lms.h)) (leavesOfCounter (ps.map (·.lms.h)) k.counter) := by
  rw [getLifetime_eq] at h
  split at h
  · cases h
  · cases hk : RefKey.parse H.n sk with
    | none => rw [hk] at h; cases h
    | some k =>
      rw [hk] at h
      obtain ⟨v, hex, hv⟩ := P.map_eq_ok.1 h
      cases v with
      | none => cases hv
      | some pr =>
        obtain ⟨ps, hps, hne, hh, hq⟩ := Layout.expandPrivateKey_shape hex
        cases hv
        exact ⟨k, ps, rfl, hps, hne, by dsimp only; rw [hh, hq]⟩

end Lemmas
