/-
C01 with auxiliary data: completeness (Props/C01, aux-free) composed with cache transparency (Props/C10).
-/
import HbsLms.Props.C01
import HbsLms.Props.C10

namespace Props.C01

open Impl Lemmas.AuxCache

/-- Whatever the aux buffers passed to key generation and to signing contain, a released signature verifies under the
generated public key. The only assumption on contents (`husedK`, `husedS`) concerns buffers that the MAC check accepted
for this seed: their non-zero slots hold true nodes of the top tree. This stands in for MAC unforgeability, which is
never assumed. `cfg.maxTreeHeight ≤ 30`: see the head of Props/C10. -/
theorem released_signature_verifies_with_aux (H : HashFn) (cfg : Config) (hK : cfg.maxTreeHeight ≤ 30)
    (ps0 : List HssParam) (seed msg : Bytes) (c : Nat) (cb : Bytes → Bool)
    (auxK auxS : Option Bytes) (ko : KeygenOutcome) (skb vk : Bytes) (o : SignOutcome) (sig : Bytes)
    (hseed : seed.length = H.n)
    (hk : hssKeygen H cfg ps0 seed auxK = .ok ko) (hkr : ko.result = some (skb, vk))
    (hsign : hssSign H cfg msg (blobWithCounter skb c) cb auxS = .ok o) (hres : o.result = some sig)
    (husedK : ∀ p0 buf e, keygenTop H cfg ps0 = some p0 → auxK = some buf → hss_is_aux_data_used buf = true →
      hss_expand_aux_data H cfg buf (some seed) = some e → CacheTrue H (topKey H seed p0) e)
    (husedS : ∀ k p0 buf e, RefKey.parse H.n (blobWithCounter skb c) = some k → signTop H cfg k = some p0 →
      auxS = some buf → hss_is_aux_data_used buf = true →
      hss_expand_aux_data H cfg buf (some k.seed) = some e → CacheTrue H (topKey H k.seed p0) e) :
    hssVerify H cfg msg sig vk = .ok true := by
  -- keygen without aux returns the same key pair
  obtain ⟨ko0, hk0, hkeq⟩ := P.ok_of_map_eq (Props.C10.C10_keygen H cfg hK ps0 seed auxK husedK) hk
  -- signing without aux releases the same signature
  obtain ⟨o0, hs0, hseq⟩ :=
    P.ok_of_map_eq (Props.C10.C10_sign H cfg hK msg (blobWithCounter skb c) cb auxS husedS) hsign
  obtain ⟨res, a0, r0⟩ := ko0
  have hres0 : res = some (skb, vk) := hkeq.symm.trans hkr
  subst hres0
  exact released_signature_verifies H cfg ps0 seed msg c cb skb vk a0 r0 o0 sig hseed hk0 hs0
    ((congrArg Prod.fst hseq).symm.trans hres)

/-- in particular: unmarked buffers (first byte 0, or empty), of any length and content, on both sides -/
theorem released_signature_verifies_unmarked_aux (H : HashFn) (cfg : Config) (hK : cfg.maxTreeHeight ≤ 30)
    (ps0 : List HssParam) (seed msg : Bytes) (c : Nat) (cb : Bytes → Bool)
    (bufK bufS : Bytes) (ko : KeygenOutcome) (skb vk : Bytes) (o : SignOutcome) (sig : Bytes)
    (hseed : seed.length = H.n)
    (hunK : hss_is_aux_data_used bufK = false) (hunS : hss_is_aux_data_used bufS = false)
    (hk : hssKeygen H cfg ps0 seed (some bufK) = .ok ko) (hkr : ko.result = some (skb, vk))
    (hsign : hssSign H cfg msg (blobWithCounter skb c) cb (some bufS) = .ok o) (hres : o.result = some sig) :
    hssVerify H cfg msg sig vk = .ok true :=
  released_signature_verifies_with_aux H cfg hK ps0 seed msg c cb (some bufK) (some bufS) ko skb vk o sig hseed hk hkr
    hsign hres
    (fun p0 b e _ => Lemmas.AuxLifecycle.honest_some_of_unmarked H cfg seed p0 hunK b e)
    (fun k p0 b e _ _ => Lemmas.AuxLifecycle.honest_some_of_unmarked H cfg k.seed p0 hunS b e)

end Props.C01

#print axioms Props.C01.released_signature_verifies_with_aux
#print axioms Props.C01.released_signature_verifies_unmarked_aux
