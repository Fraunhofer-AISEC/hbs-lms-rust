/-
Size arithmetic of the auxiliary buffer (`hss/aux.rs`): the levels that `hss_optimal_aux_level` announces for a buffer fit
into that buffer.
-/
import HbsLms.Impl.AuxData

open Generated Impl

namespace Lemmas.AuxCache

/-- `sizes` in `hss_expand_aux_data`; `auxTotal` is its `total` -/
def auxSizes (H : HashFn) (cfg : Config) (level : Nat) : List Nat :=
  (List.range (cfg.maxTreeHeight + 1)).map fun i =>
    if (level >>> i) &&& 1 == 0 then 0 else H.n <<< i

def auxTotal (H : HashFn) (cfg : Config) (level : Nat) : Nat :=
  4 + (auxSizes H cfg level).foldl (· + ·) 0

theorem auxTotal_eq_sum (H : HashFn) (cfg : Config) (level : Nat) :
    auxTotal H cfg level = 4 + (auxSizes H cfg level).sum := by
  rw [auxTotal, List.sum_eq_foldl]

/-- the function `auxSizes` maps over the levels (`auxSizes_eq_map`) -/
def lvSize (n x i : Nat) : Nat := if (x >>> i) &&& 1 == 0 then 0 else n <<< i

theorem auxSizes_eq_map (H : HashFn) (cfg : Config) (level : Nat) :
    auxSizes H cfg level = (List.range (cfg.maxTreeHeight + 1)).map (lvSize H.n level) := rfl

theorem lvSize_testBit (n x i : Nat) : lvSize n x i = if x.testBit i then n * 2 ^ i else 0 := by
  unfold lvSize
  rw [Nat.and_one_is_mod, Nat.shiftRight_eq_div_pow, Nat.testBit_eq_decide_div_mod_eq, Nat.shiftLeft_eq]
  have := Nat.mod_two_eq_zero_or_one (x / 2 ^ i)
  rcases this with h | h <;> simp [h]

/-- the sizes of the first `K` levels summed, for induction on `K`; `auxSizes_sum` is the case `K = maxTreeHeight + 1` -/
def lvSum (n K x : Nat) : Nat := ((List.range K).map (lvSize n x)).sum

theorem auxSizes_sum (H : HashFn) (cfg : Config) (x : Nat) :
    (auxSizes H cfg x).sum = lvSum H.n (cfg.maxTreeHeight + 1) x := rfl

theorem lvSum_succ (n K x : Nat) : lvSum n (K + 1) x = lvSum n K x + lvSize n x K := by
  simp [lvSum, List.range_succ, List.sum_append]

theorem lvSum_or (n K a b : Nat) : lvSum n K (a ||| b) ≤ lvSum n K a + lvSum n K b := by
  induction K with
  | zero => simp [lvSum]
  | succ K ih =>
    rw [lvSum_succ, lvSum_succ, lvSum_succ]
    have : lvSize n (a ||| b) K ≤ lvSize n a K + lvSize n b K := by
      rw [lvSize_testBit, lvSize_testBit, lvSize_testBit, Nat.testBit_or]
      cases a.testBit K <;> cases b.testBit K <;> simp
    omega

theorem lvSum_two_pow (n K l : Nat) : lvSum n K (2 ^ l) = if l < K then n * 2 ^ l else 0 := by
  induction K with
  | zero => simp [lvSum]
  | succ K ih =>
    rw [lvSum_succ, ih, lvSize_testBit, Nat.testBit_two_pow]
    simp only [decide_eq_true_eq]
    by_cases h1 : l < K
    · rw [if_pos h1, if_neg (by omega), if_pos (by omega), Nat.add_zero]
    · by_cases h2 : l = K
      · subst h2
        rw [if_neg h1, if_pos rfl, if_pos (by omega), Nat.zero_add]
      · rw [if_neg h1, if_neg h2, if_neg (by omega)]

/-- the level word is stored as a `u32` -/
theorem lvSum_mod (n K x : Nat) (hK : K ≤ 32) : lvSum n K (x % 2 ^ 32) = lvSum n K x := by
  unfold lvSum
  congr 1
  apply List.map_congr_left
  intro i hi
  have : i < 32 := by have := List.mem_range.1 hi; omega
  rw [lvSize_testBit, lvSize_testBit, Nat.testBit_mod_two_pow]
  simp [this]

/-- The greedy loop of `hss_optimal_aux_level`: what is spent on levels is taken off the remainder. Bit 31 of the level
word is the flag `0x80000000`, not a level: it must lie outside the `K` levels that are counted, hence `K ≤ 31`. -/
theorem hss_optimal_aux_level_fold (n K : Nat) (hK : K ≤ 31) (levels : List Nat) (rem0 lvl0 : Nat) :
    let r := levels.foldl (fun (acc : Nat × Nat) level =>
      let len := n <<< level
      if acc.1 ≥ len then (acc.1 - len, acc.2 ||| 0x80000000 ||| (1 <<< level)) else acc) (rem0, lvl0)
    r.1 + lvSum n K r.2 ≤ rem0 + lvSum n K lvl0 := by
  induction levels generalizing rem0 lvl0 with
  | nil => simp
  | cons l t ih =>
    simp only [List.foldl_cons]
    by_cases h : rem0 ≥ n <<< l
    · simp only [h, if_true]
      refine Nat.le_trans (ih _ _) ?_
      have h1 := lvSum_or n K (lvl0 ||| 0x80000000) (1 <<< l)
      have h2 := lvSum_or n K lvl0 0x80000000
      have h3 : lvSum n K 0x80000000 = 0 := by
        have : (0x80000000 : Nat) = 2 ^ 31 := by decide
        rw [this, lvSum_two_pow, if_neg (by omega)]
      have h4 : lvSum n K (1 <<< l) ≤ n <<< l := by
        rw [Nat.one_shiftLeft, lvSum_two_pow, Nat.shiftLeft_eq]; split <;> omega
      omega
    · simp only [h, if_false]
      exact ih _ _

theorem lvSum_zero (n K : Nat) : lvSum n K 0 = 0 := by
  induction K with
  | zero => rfl
  | succ K ih => rw [lvSum_succ, ih]; simp [lvSize]

theorem hss_optimal_aux_level_len_le (n h0 M : Nat) : (hss_optimal_aux_level n h0 M).2 ≤ max M 1 := by
  unfold hss_optimal_aux_level
  split
  · exact Nat.le_max_right M 1
  · dsimp only
    omega

theorem hss_optimal_aux_level_fits (n h0 M K : Nat) (hK : K ≤ 31) (h : (hss_optimal_aux_level n h0 M).1 ≠ 0) :
    4 + lvSum n K (hss_optimal_aux_level n h0 M).1 ≤ M := by
  unfold hss_optimal_aux_level at h ⊢
  by_cases hM : M < AUX_DATA_HASHES + n
  · simp only [hM, if_true] at h
    exact absurd rfl h
  · simp only [hM, if_false]
    have hf := hss_optimal_aux_level_fold n K hK
      ((List.range ((h0 + 1) / MIN_SUBTREE)).map fun k => h0 - MIN_SUBTREE * k) (M - (AUX_DATA_HASHES + n)) 0
    rw [lvSum_zero] at hf
    simp only [AUX_DATA_HASHES] at hM hf ⊢
    omega

theorem hss_store_aux_marker_zero_unused (b : Bytes) : hss_is_aux_data_used (hss_store_aux_marker b 0) = false := by
  simp [hss_is_aux_data_used, hss_store_aux_marker, Bytes.patch, AUX_DATA_MARKER, NO_AUX_DATA]

theorem hss_get_aux_data_len_le (n h0 M : Nat) (hM : 1 ≤ M) : hss_get_aux_data_len n h0 M ≤ M := by
  unfold hss_get_aux_data_len
  have := hss_optimal_aux_level_len_le n h0 M
  dsimp only
  split <;> omega

end Lemmas.AuxCache
