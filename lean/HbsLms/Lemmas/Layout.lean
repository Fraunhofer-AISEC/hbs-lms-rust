/-
Layout of released signatures (C07): the closed form of the HSS signature as a function of the key blob (seed,
parameter list, counter) and the message, and its exact length; that signature verifies (completeness on the parsed
key). Every statement is for an arbitrary `H : HashFn`, without aux data.
-/
import HbsLms.Lemmas.CompleteHss

namespace Lemmas.Layout

open Impl Generated Lemmas.Complete

def bottomLevel (H : HashFn) (seed : Bytes) (p0 : HssParam) (rest : List HssParam) (c : Nat) : Level :=
  lastLevel (topLevel H seed p0 rest c) (lowerLevels H seed p0 rest c)

/-- the randomizer of the tree's own seed at its current leaf; `linkC` is that of the child's seed -/
def msgC (H : HashFn) (b : Level) : Bytes := signatureRandomizer H b.key.seed b.key.I b.q

/-- the HSS signature of `msg` under the key blob `(c, ps = p0 :: rest, seed)`:
`u32 (L-1) ‖ (LMS sig by level i over pk of level i+1 ‖ pk of level i+1)* ‖ LMS sig by the bottom level over msg` -/
def hssSigBytes (H : HashFn) (seed : Bytes) (p0 : HssParam) (rest : List HssParam) (c : Nat) (msg : Bytes) : Bytes :=
  Bytes.u32be rest.length ++ spkBytes H (topLevel H seed p0 rest c) (lowerLevels H seed p0 rest c) ++
    lmsSigBytes H (bottomLevel H seed p0 rest c).key (bottomLevel H seed p0 rest c).q msg
      (msgC H (bottomLevel H seed p0 rest c))

theorem msgC_length (H : HashFn) (b : Level) : (msgC H b).length = H.n := signatureRandomizer_length H _ _ _

theorem expandedOf_getLast? (H : HashFn) (seed : Bytes) (p0 : HssParam) (rest : List HssParam) (c : Nat) :
    (expandedOf H seed p0 rest c).levels.getLast? = some (bottomLevel H seed p0 rest c) :=
  getLast?_cons_eq_lastLevel _ _

theorem hssSigBytes_expanded (H : HashFn) (seed : Bytes) (p0 : HssParam) (rest : List HssParam) (c : Nat) (msg : Bytes) :
    hssSigBytes H seed p0 rest c msg =
      Bytes.u32be ((expandedOf H seed p0 rest c).levels.length - 1) ++
        (List.zipWith (· ++ ·) (expandedOf H seed p0 rest c).sigs (expandedOf H seed p0 rest c).pubs).flatten ++
        lmsSigBytes H (bottomLevel H seed p0 rest c).key (bottomLevel H seed p0 rest c).q msg
          (msgC H (bottomLevel H seed p0 rest c)) := by
  simp only [expandedOf, flatten_zipWith_sigsOf, List.length_cons, Nat.add_sub_cancel, lowerLevels_length]
  rfl

/-- what `signPrepare` (no aux data) returned `.ready hs sig` from, for the key blob `k` with parameter list `p0 :: rest` -/
structure SignLayout (H : HashFn) (cfg : Config) (msg : Bytes) (k : RefKey) (hs : List Nat) (sig : Bytes)
    (p0 : HssParam) (rest : List HssParam) : Prop where
  params : paramsOfBytes cfg H.n k.params = some (p0 :: rest)
  heights : hs = (p0 :: rest).map (·.lms.h)
  sig : sig = hssSigBytes H k.seed p0 rest k.counter msg
  top : GoodKey H.n (topLevel H k.seed p0 rest k.counter).key
  lower : ∀ c ∈ lowerLevels H k.seed p0 rest k.counter, GoodKey H.n c.key
  qs : qsOk (topLevel H k.seed p0 rest k.counter) (lowerLevels H k.seed p0 rest k.counter)
  bottom : (bottomLevel H k.seed p0 rest k.counter).q < 2 ^ (bottomLevel H k.seed p0 rest k.counter).key.lms.h
  expanded : expandPrivateKey H cfg k none = .ok (some (expandedOf H k.seed p0 rest k.counter, none))

theorem signPrepare_layout {H : HashFn} {cfg : Config} {msg : Bytes} {k : RefKey} {hs : List Nat} {sig : Bytes}
    {a : Option Bytes} {r : Bytes} (h : signPrepare H cfg msg k none = .ok (.ready hs sig a r)) :
    ∃ p0 rest, SignLayout H cfg msg k hs sig p0 rest := by
  obtain ⟨p0, rest, hps, hb⟩ := AuxCache.signPrepare_ready_inv h
  obtain ⟨ex, e1, bottom, bsig, e2', hex, hlast, hsign, rfl, rfl, -, -⟩ := AuxCache.signBody_ready_inv hb
  obtain ⟨p0', rest', hps', rfl, hexp, hqs⟩ := expandPrivateKey_closed hex
  cases hps.symm.trans hps'
  subst hexp
  obtain rfl : bottomLevel H k.seed p0 rest k.counter = bottom :=
    Option.some.inj ((expandedOf_getLast? H k.seed p0 rest k.counter).symm.trans hlast)
  rw [ite_self] at hsign
  obtain ⟨hq, -, rfl, -⟩ := lmsSign_none_inv hsign
  obtain ⟨gt, hall⟩ := levels_good hps k.seed k.counter
  refine ⟨p0, rest, hps, levels_heights H k.seed p0 rest k.counter, ?_, gt, hall, hqs, hq, hex⟩
  rw [hssSigBytes_expanded, map_range_getD_zipWith _ _ _ _ _ _ (by simp [expandedOf, sigsOf_length]) (by simp [expandedOf])]
  rfl

theorem signPrepare_verifies {H : HashFn} {cfg : Config} {msg : Bytes} {k : RefKey} {hs : List Nat} {sig : Bytes}
    {a : Option Bytes} {r : Bytes} (h : signPrepare H cfg msg k none = .ok (.ready hs sig a r)) :
    ∃ ps p0, paramsOfBytes cfg H.n k.params = some ps ∧ ps.head? = some p0 ∧
      hssVerify H cfg msg sig (Bytes.u32be ps.length ++ pkBytes H (rootKey H k.seed p0)) = .ok true := by
  obtain ⟨p0, rest, hl⟩ := signPrepare_layout h
  have hok := ParamsOk.of_paramsOfBytes hl.params
  have hsl := hok.sigLen
  have hmax := hok.length_le.2
  -- the signature length, which fits a `u16`, counts at least one byte per level below the top
  simp only [hssSigLen, lms_public_key_length, List.length_cons, Nat.add_sub_cancel] at hsl
  have h65 : rest.length ≤ rest.length * (4 + 4 + 16 + H.n) := Nat.le_mul_of_pos_right _ (by omega)
  have hll := lowerLevels_length H k.seed p0 rest k.counter
  rw [List.length_cons] at hmax
  have := hssVerify_chain H cfg _ _ msg _ hl.top hl.lower hl.qs (msgC_length H (bottomLevel H k.seed p0 rest k.counter))
    hl.bottom (by rw [hll]; exact hmax) (by rw [hll]; omega)
  rw [hll] at this
  exact ⟨_, p0, hl.params, rfl, hl.sig ▸ this⟩

/-- the bottom signature's length is added on the left so that the sum on the right runs over all levels -/
theorem spkBytes_length (H : HashFn) : ∀ (cs : List Level) (parent : Level), (∀ c ∈ cs, c.key.I.length = 16) →
    (spkBytes H parent cs).length +
        lms_signature_length H.n (lastLevel parent cs).key.ots.p (lastLevel parent cs).key.lms.h
      = (((parent :: cs).map levelParam).map fun p => lms_signature_length H.n p.ots.p p.lms.h).sum +
          cs.length * lms_public_key_length H.n := by
  intro cs
  induction cs with
  | nil => intro parent _; simp [spkBytes, lastLevel, levelParam]
  | cons c cs ih =>
    intro parent hI
    have := ih c (fun c' hc' => hI c' (by simp [hc']))
    simp only [spkBytes, lastLevel, List.length_append, List.map_cons, List.sum_cons, List.length_cons,
      lmsSigBytes_length H parent.key parent.q _ _ (linkC_length H parent),
      pkBytes_length H c.key (hI c (by simp)), Nat.succ_mul] at this ⊢
    simp only [levelParam] at this ⊢
    omega

theorem hssSigBytes_length (H : HashFn) (seed : Bytes) (p0 : HssParam) (rest : List HssParam) (c : Nat) (msg : Bytes)
    (hI : ∀ l ∈ lowerLevels H seed p0 rest c, l.key.I.length = 16) :
    (hssSigBytes H seed p0 rest c msg).length = hssSigLen H.n (p0 :: rest) := by
  have h1 := spkBytes_length H (lowerLevels H seed p0 rest c) (topLevel H seed p0 rest c) hI
  rw [levels_params] at h1
  have hl : (lowerLevels H seed p0 rest c).length = rest.length := childrenOf_length _ _ _ _ _
  rw [hssSigLen_eq_sum]
  simp only [hssSigBytes, List.length_append, Bytes.u32be_length,
    lmsSigBytes_length H _ _ msg _ (msgC_length H _), bottomLevel, List.length_cons, Nat.add_sub_cancel]
  rw [hl] at h1
  omega

theorem signPrepare_length {H : HashFn} {cfg : Config} {msg : Bytes} {k : RefKey} {hs : List Nat} {sig : Bytes}
    {a : Option Bytes} {r : Bytes} (h : signPrepare H cfg msg k none = .ok (.ready hs sig a r)) :
    ∃ ps, paramsOfBytes cfg H.n k.params = some ps ∧ sig.length = hssSigLen H.n ps := by
  obtain ⟨p0, rest, hl⟩ := signPrepare_layout h
  refine ⟨_, hl.params, ?_⟩
  rw [hl.sig]
  exact hssSigBytes_length H k.seed p0 rest k.counter msg (fun l hm => (hl.lower l hm).I)

theorem spkBytes_indexed (H : HashFn) : ∀ (cs : List Level) (parent d : Level),
    spkBytes H parent cs = ((List.range cs.length).map fun i =>
      lmsSigBytes H ((parent :: cs).getD i d).key ((parent :: cs).getD i d).q (pkBytes H ((parent :: cs).getD (i + 1) d).key)
          (linkC H ((parent :: cs).getD i d)) ++ pkBytes H ((parent :: cs).getD (i + 1) d).key).flatten := by
  intro cs
  induction cs with
  | nil => intro _ _; simp [spkBytes]
  | cons c cs ih =>
    intro parent d
    rw [List.length_cons, List.range_succ_eq_map, List.map_cons, List.flatten_cons, List.map_map]
    simp only [spkBytes, List.getD_cons_zero, List.getD_cons_succ, Function.comp_def, Nat.zero_add]
    rw [ih c d]
    simp only [List.getD_cons_succ, List.append_assoc]

end Lemmas.Layout
