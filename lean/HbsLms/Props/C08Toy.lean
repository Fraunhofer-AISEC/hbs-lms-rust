/-
The toy instances of C08 (namespace `Props.C08Derive`, whose examples they serve): a small hash function and a
two-level key on which the hash-sigs reference `Spec.HashSigs.publicKey` is evaluated by the kernel
(Props/C03Ids.lean evaluates the position map on the same instance), and the hash function and parameter pair of the
instances of `keygen_is_hashsigs`.
-/
import HbsLms.Spec.HashSigs

namespace Props.C08Derive

/-- a toy hash function that depends on every input byte (a polynomial checksum mod 65521) -/
def toyMix : HashFn :=
  ⟨16, fun x => (List.range 16).map fun i =>
      UInt8.ofNat ((x.foldl (fun a b => 31 * a + b.toNat) 7) % 65521 / (i + 1)), fun x => by simp⟩

/-- LM-OTS `w = 2` for a 16-byte hash (68 chains of 3 steps) over the 4-leaf test tree -/
def toySmall : HssParam := ⟨⟨2, 2, 68, 6⟩, ⟨1, 2⟩⟩

def toySeed : Bytes := [1, 2, 3, 4, 5, 6, 7, 8, 9, 10, 11, 12, 13, 14, 15, 16]

/-- a 16-byte hash function that pads or truncates its input, for the instances of `keygen_is_hashsigs` -/
def toyHash : HashFn := ⟨16, fun x => (x ++ List.replicate 16 0).take 16, fun x => by simp [List.length_take]⟩

/-- LM-OTS `w = 8` for a 16-byte hash (18 chains) over an LMS tree of height 5 -/
def toyParam : HssParam := ⟨⟨4, 8, 18, 0⟩, ⟨5, 5⟩⟩

/-- the specification is executable: the public key of the two-level toy key -/
theorem toy_public_key : Spec.HashSigs.publicKey toyMix [toySmall, toySmall] toySeed =
    [0, 0, 0, 2, 0, 0, 0, 1, 0, 0, 0, 2,
     239, 247, 79, 251, 150, 167, 143, 253, 197, 203, 254, 83, 195, 71, 220, 126,
     199, 227, 66, 113, 142, 161, 101, 56, 192, 199, 41, 208, 172, 178, 218, 28] := by decide +kernel

end Props.C08Derive
