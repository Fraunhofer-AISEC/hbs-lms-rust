/-
Life cycle of the auxiliary buffer: buffers written back by `hssKeygen` / `hssSign` for a key are *honest* for that
key - whenever a later operation accepts them (marker set, MAC check passed), the view it gets satisfies `CacheTrue`.
No assumption about the MAC is needed: the cached levels of the re-expanded buffer are literally the byte strings the
previous operation wrote, whatever the MAC bytes are. Conversely what key generation writes back IS accepted by the
next operation (`hssKeygen_output_accepted`). Signing through a view is one equation (`hssSign_reAux`): the outcome of the
call without aux data, with another buffer handed back.
-/
import HbsLms.Lemmas.AuxCache
import HbsLms.Lemmas.PrivKey
import HbsLms.Spec.History

open Generated Impl

namespace Lemmas.AuxLifecycle

open Lemmas.AuxCache

/-- the level word of `e` has four bytes and the levels present in `e` are those it announces: the shape of every view
`hss_expand_aux_data` hands out, and what is needed to read the same levels back from `e.bytes` -/
structure AuxShaped (H : HashFn) (cfg : Config) (e : ExpAux) : Prop where
  head_length : e.head.length = 4
  cached : e.layers.map Option.isSome = (auxSizes H cfg (Bytes.toNat e.head)).map (fun sz => sz != 0)

theorem auxShaped_of_frame {H : HashFn} {cfg : Config} {e e' : ExpAux} (h : frame e' = frame e)
    (hs : AuxShaped H cfg e) : AuxShaped H cfg e' :=
  ⟨frame_head h ▸ hs.head_length, by rw [frame_head h, frame_cached h]; exact hs.cached⟩

theorem layersOf_isSome (sizes : List Nat) (rest : Bytes) :
    (layersOf sizes rest).map Option.isSome = sizes.map (fun sz => sz != 0) := by
  induction sizes generalizing rest with
  | nil => rfl
  | cons sz t ih =>
    unfold layersOf
    by_cases hz : (sz == 0) = true
    · simp only [hz, if_true, List.map_cons, ih]
      have : sz = 0 := by simpa using hz
      simp [this]
    · simp only [hz, Bool.false_eq_true, if_false, List.map_cons, ih]
      have : sz ≠ 0 := by simpa using hz
      simp [this]

theorem hss_expand_aux_data_auxShaped {H : HashFn} {cfg : Config} {aux : Bytes} {seed : Option Bytes} {e : ExpAux}
    (h : hss_expand_aux_data H cfg aux seed = some e) : AuxShaped H cfg e := by
  have hv := hss_expand_aux_data_some h
  refine ⟨(readAt_inv hv.head).2.2, ?_⟩
  rw [hv.layers, splitLayers_eq]
  exact layersOf_isSome _ _

/-- `layers` has an entry for every size: none where the size is 0, else a byte string of that length -/
def LayersFit : List Nat → List (Option Bytes) → Prop
  | [], [] => True
  | sz :: t, l :: ls => (if sz = 0 then l = none else ∃ b : Bytes, l = some b ∧ b.length = sz) ∧ LayersFit t ls
  | _, _ => False

theorem layersFit_of_index (sizes : List Nat) (layers : List (Option Bytes)) (hlen : layers.length = sizes.length)
    (h : ∀ (i sz : Nat) (l : Option Bytes), sizes[i]? = some sz → layers[i]? = some l →
      (if sz = 0 then l = none else ∃ b : Bytes, l = some b ∧ b.length = sz)) : LayersFit sizes layers := by
  induction sizes generalizing layers with
  | nil =>
    cases layers with
    | nil => trivial
    | cons l ls => simp at hlen
  | cons sz t ih =>
    cases layers with
    | nil => simp at hlen
    | cons l ls =>
      refine ⟨h 0 sz l rfl rfl, ih ls (by simpa using hlen) ?_⟩
      intro i sz' l' h1 h2
      exact h (i + 1) sz' l' (by simpa using h1) (by simpa using h2)

theorem layersOf_flatten (sizes : List Nat) (layers : List (Option Bytes)) (tail : Bytes) (h : LayersFit sizes layers) :
    layersOf sizes ((layers.map fun l => l.getD []).flatten ++ tail) = layers := by
  induction sizes generalizing layers with
  | nil =>
    cases layers with
    | nil => rfl
    | cons l ls => exact absurd h (by simp [LayersFit])
  | cons sz t ih =>
    cases layers with
    | nil => exact absurd h (by simp [LayersFit])
    | cons l ls =>
      obtain ⟨h1, h2⟩ := h
      unfold layersOf
      by_cases hz : sz = 0
      · subst hz
        simp only [if_true] at h1
        subst h1
        simp only [beq_self_eq_true, if_true, List.map_cons, Option.getD_none, List.flatten_cons, List.nil_append]
        rw [ih ls h2]
      · simp only [hz, if_false] at h1
        obtain ⟨b, rfl, hb⟩ := h1
        have hz' : (sz == 0) = false := by simpa using hz
        simp only [hz', Bool.false_eq_true, if_false, List.map_cons, Option.getD_some, List.flatten_cons,
          List.append_assoc]
        rw [List.take_left' hb, List.drop_left' hb, ih ls h2]

theorem layersFit_of_cacheTrue {H : HashFn} {cfg : Config} {k : LmsKey} {e : ExpAux} (hs : AuxShaped H cfg e)
    (hc : CacheTrue H k e) : LayersFit (auxSizes H cfg (Bytes.toNat e.head)) e.layers := by
  apply layersFit_of_index
  · have := congrArg List.length hs.cached
    simpa using this
  · intro i sz l h1 h2
    have hi := congrArg (fun x => x[i]?) hs.cached
    simp only [List.getElem?_map, h1, h2, Option.map_some, Option.some.injEq] at hi
    by_cases hz : sz = 0
    · subst hz
      simp only [if_true]
      cases l with
      | none => rfl
      | some b => simp at hi
    · simp only [hz, if_false]
      cases l with
      | none => simp [hz] at hi
      | some b =>
        refine ⟨b, rfl, ?_⟩
        have hg : e.layers.getD i none = some b := by
          rw [List.getD_eq_getElem?_getD, h2]; rfl
        rw [(hc i b hg).1, auxSizes_getElem? H cfg _ i sz h1 hz]

theorem cacheTrue_of_layers {H : HashFn} {k : LmsKey} {e e' : ExpAux} (h : e'.layers = e.layers)
    (hc : CacheTrue H k e) : CacheTrue H k e' := by
  unfold CacheTrue
  rw [h]
  exact hc

/-- the round trip through `ExpAux.bytes`; nothing is assumed of the MAC bytes -/
theorem hss_expand_aux_data_bytes_layers {H : HashFn} {cfg : Config} {k : LmsKey} {e e' : ExpAux} {seed : Option Bytes}
    (hs : AuxShaped H cfg e) (hc : CacheTrue H k e)
    (h : hss_expand_aux_data H cfg e.bytes seed = some e') : e'.layers = e.layers := by
  have hf := layersFit_of_cacheTrue hs hc
  have hv := hss_expand_aux_data_some h
  have hhead : e'.head = e.head := by
    rw [(readAt_inv hv.head).2.1]
    unfold ExpAux.bytes Bytes.slice
    rw [List.drop_zero, List.append_assoc, List.take_left' hs.head_length]
  have hdrop : e.bytes.drop 4 = (e.layers.map fun l => l.getD []).flatten ++ e.hmac := by
    unfold ExpAux.bytes
    rw [List.append_assoc, List.drop_left' hs.head_length]
  rw [hv.layers, hhead, splitLayers_eq, List.nil_append, hdrop]
  exact layersOf_flatten _ _ _ hf

theorem layersFit_length {sizes : List Nat} {layers : List (Option Bytes)} (h : LayersFit sizes layers) :
    ((layers.map fun l => l.getD []).flatten).length = sizes.sum := by
  induction sizes generalizing layers with
  | nil =>
    cases layers with
    | nil => rfl
    | cons l ls => exact absurd h (by simp [LayersFit])
  | cons sz t ih =>
    cases layers with
    | nil => exact absurd h (by simp [LayersFit])
    | cons l ls =>
      obtain ⟨h1, h2⟩ := h
      simp only [List.map_cons, List.flatten_cons, List.length_append, List.sum_cons, ih h2]
      congr 1
      split at h1
      · next hz => subst hz; subst h1; rfl
      · obtain ⟨b, rfl, hb⟩ := h1; exact hb

theorem auxShaped_layers_length {H : HashFn} {cfg : Config} {e : ExpAux} (hs : AuxShaped H cfg e) :
    e.layers.length = cfg.maxTreeHeight + 1 := by
  simpa [auxSizes] using congrArg List.length hs.cached

/-- the marker byte lies in the level word -/
theorem hss_is_aux_data_used_bytes {e : ExpAux} (h4 : e.head.length = 4) :
    hss_is_aux_data_used e.bytes = hss_is_aux_data_used e.head := by
  unfold hss_is_aux_data_used ExpAux.bytes AUX_DATA_MARKER
  rw [List.append_assoc, List.getElem?_append_left (by omega)]

/-- whatever the cached nodes are: the MAC is recomputed over the very bytes it was computed over -/
theorem hss_expand_aux_data_bytes_accepts {H : HashFn} {cfg : Config} {e : ExpAux} {s : Bytes} (hs : AuxShaped H cfg e)
    (hf : LayersFit (auxSizes H cfg (Bytes.toNat e.head)) e.layers) (hu : hss_is_aux_data_used e.bytes = true)
    (hm : e.hmac = auxHmac H (auxSeedDerive H s) (e.head ++ (e.layers.map fun l => l.getD []).flatten)) :
    (hss_expand_aux_data H cfg e.bytes (some s)).isSome = true := by
  have hb : e.bytes = (e.head ++ (e.layers.map fun l => l.getD []).flatten) ++ e.hmac := rfl
  have htot : auxTotal H cfg (Bytes.toNat e.head) = (e.head ++ (e.layers.map fun l => l.getD []).flatten).length := by
    rw [List.length_append, layersFit_length hf, hs.head_length, auxTotal_eq_sum]
  have hread : readAt e.bytes 4 0 = some e.head := by
    rw [readAt_of_le (by rw [hb]; simp [hs.head_length])]
    unfold ExpAux.bytes Bytes.slice
    rw [List.drop_zero, List.append_assoc, List.take_left' hs.head_length]
  apply hss_expand_aux_data_accepts hu hread
  · rw [htot, hb]; simp only [List.length_append]; omega
  · rw [htot, hb, List.take_left' rfl, List.drop_left' rfl, hm]

theorem hss_finalize_aux_data_accepted {H : HashFn} {cfg : Config} {e : ExpAux} (s : Bytes) (hs : AuxShaped H cfg e)
    (hf : LayersFit (auxSizes H cfg (Bytes.toNat e.head)) e.layers) (hu : hss_is_aux_data_used e.head = true)
    (hl : e.head = Bytes.u32be e.level) :
    (hss_expand_aux_data H cfg (hss_finalize_aux_data H cfg e s).bytes (some s)).isSome = true := by
  apply hss_expand_aux_data_bytes_accepts (e := hss_finalize_aux_data H cfg e s) (auxShaped_of_frame (e := e) rfl hs) hf
  · rw [hss_is_aux_data_used_bytes (e := hss_finalize_aux_data H cfg e s) hs.head_length]; exact hu
  · show auxHmac _ _ _ = auxHmac _ _ _
    -- finalize MACs levels `0 ..= MAX_TREE_HEIGHT` (`FINALIZE_INCLUSIVE = 1`, read off the Rust loop), which is all there are
    rw [← hl, List.take_of_length_le (by rw [auxShaped_layers_length hs]; simp [FINALIZE_INCLUSIVE])]
    rfl

/-- A buffer that is absent, unmarked or rejected by the MAC check is trivially honest - it is never read. -/
def Honest (H : HashFn) (cfg : Config) (seed : Bytes) (p0 : HssParam) (aux : Option Bytes) : Prop :=
  ∀ buf e, aux = some buf → hss_is_aux_data_used buf = true →
    hss_expand_aux_data H cfg buf (some seed) = some e → CacheTrue H (topKey H seed p0) e

theorem honest_none (H : HashFn) (cfg : Config) (seed : Bytes) (p0 : HssParam) : Honest H cfg seed p0 none := by
  intro buf e h; cases h

theorem honest_unmarked (H : HashFn) (cfg : Config) (seed : Bytes) (p0 : HssParam) (aux : Option Bytes)
    (h : ∀ b, aux = some b → hss_is_aux_data_used b = false) : Honest H cfg seed p0 aux := by
  intro buf e hb hu _
  rw [h buf hb] at hu; cases hu

theorem honest_some_of_unmarked (H : HashFn) (cfg : Config) (seed : Bytes) (p0 : HssParam) {buf : Bytes}
    (hun : hss_is_aux_data_used buf = false) : Honest H cfg seed p0 (some buf) :=
  honest_unmarked H cfg seed p0 (some buf) fun _ hb => Option.some.inj hb ▸ hun

theorem honest_rejected (H : HashFn) (cfg : Config) (seed : Bytes) (p0 : HssParam) {buf : Bytes}
    (hbad : hss_expand_aux_data H cfg buf (some seed) = none) : Honest H cfg seed p0 (some buf) := by
  intro b e hb _ he
  cases hb
  rw [hbad] at he
  cases he

/-- What is kept true of the view along key generation and signing. The aux predicates: of a view `e`, `CacheTrue H k e`
(non-zero slots hold nodes of the tree of `k`) and `AuxShaped H cfg e`; the two give `LayersFit` of its levels
(`layersFit_of_cacheTrue`). Lifted to `Option ExpAux`, with nothing said of `none`: `AuxGood` is `CacheTrue`, `AuxInv` is
`AuxShaped ∧ CacheTrue`, so `AuxInv` implies `AuxGood` (`auxInv_good`). Of a caller's buffer: `AuxOK` says that the view
`getExpandedAuxData` makes of it is `AuxGood`, hence `AuxInv` (`auxInv_of_auxOK`); `Honest` says `CacheTrue` only of what
`hss_expand_aux_data` accepts with the seed, and gives `AuxOK` for `maxTreeHeight ≤ 30` (`getExpandedAuxData_auxInv`). -/
def AuxInv (H : HashFn) (cfg : Config) (k : LmsKey) (a : Option ExpAux) : Prop :=
  ∀ e, a = some e → AuxShaped H cfg e ∧ CacheTrue H k e

theorem auxInv_good {H : HashFn} {cfg : Config} {k : LmsKey} {a : Option ExpAux} (h : AuxInv H cfg k a) : AuxGood H k a :=
  fun e he => (h e he).2

theorem auxInv_of_frame {H : HashFn} {cfg : Config} {k : LmsKey} {a a' : Option ExpAux} (h : AuxInv H cfg k a)
    (hf : oframe a' = oframe a) (hg : AuxGood H k a') : AuxInv H cfg k a' := by
  intro e' he'
  subst he'
  obtain ⟨e, rfl, hfr⟩ := oframe_some hf.symm
  exact ⟨auxShaped_of_frame hfr.symm (h e rfl).1, hg e' rfl⟩

theorem auxAfter_honest {H : HashFn} {cfg : Config} {seed : Bytes} {p0 : HssParam} {a : Option ExpAux}
    {buf : Option Bytes} (ha : AuxInv H cfg (topKey H seed p0) a) (hb : Honest H cfg seed p0 buf) :
    Honest H cfg seed p0 (auxAfter a buf) := by
  cases a with
  | none => cases buf <;> exact hb
  | some e =>
    cases buf with
    | none => exact honest_none _ _ _ _
    | some b =>
      obtain ⟨hs, hc⟩ := ha e rfl
      intro buf' e' hb' _ he
      cases hb'
      exact cacheTrue_of_layers (hss_expand_aux_data_bytes_layers hs hc he) hc

theorem hss_expand_aux_data_seed_none {H : HashFn} {cfg : Config} {buf : Bytes} {s : Bytes} {e : ExpAux}
    (h : hss_expand_aux_data H cfg buf (some s) = some e) : hss_expand_aux_data H cfg buf none = some e :=
  -- without a seed nothing is checked
  hss_expand_aux_data_of_viewOf { hss_expand_aux_data_some h with checked := nofun }

theorem getExpandedAuxData_auxShaped (H : HashFn) (cfg : Config) (aux : Option Bytes) (seed : Bytes) (h0 : Nat) (e : ExpAux)
    (h : (getExpandedAuxData H cfg aux seed h0).1 = some e) : AuxShaped H cfg e := by
  rcases getExpandedAuxData_cases H cfg aux seed h0 with hg | ⟨buf, _, _, hg⟩ | ⟨buf, _, _, hg⟩
  · -- absent or empty: no view
    rw [hg] at h
    cases h
  · -- marked: the buffer expanded with the seed
    simp only [hg] at h
    exact hss_expand_aux_data_auxShaped h
  · -- unmarked: the fresh buffer expanded
    simp only [hg] at h
    exact hss_expand_aux_data_auxShaped h

/-- the hypothesis of `Props.C10.keygen_transparent` / `sign_transparent`: the view handed to the tree code is `AuxGood` -/
def _root_.Lemmas.AuxCache.AuxOK (H : HashFn) (cfg : Config) (aux : Option Bytes) (seed : Bytes) (p0 : HssParam) :
    Prop :=
  AuxGood H (topKey H seed p0) (getExpandedAuxData H cfg aux seed p0.lms.h).1

theorem auxInv_of_auxOK {H : HashFn} {cfg : Config} {aux : Option Bytes} {seed : Bytes} {p0 : HssParam}
    (h : AuxOK H cfg aux seed p0) : AuxInv H cfg (topKey H seed p0) (getExpandedAuxData H cfg aux seed p0.lms.h).1 :=
  fun e he => ⟨getExpandedAuxData_auxShaped H cfg aux seed _ e he, h e he⟩

theorem getExpandedAuxData_auxInv (H : HashFn) (cfg : Config) (hK : cfg.maxTreeHeight ≤ 30) (aux : Option Bytes) (seed : Bytes)
    (p0 : HssParam) (hh : Honest H cfg seed p0 aux) :
    AuxInv H cfg (topKey H seed p0) (getExpandedAuxData H cfg aux seed p0.lms.h).1 ∧
    Honest H cfg seed p0 (getExpandedAuxData H cfg aux seed p0.lms.h).2.1 := by
  rcases getExpandedAuxData_cases H cfg aux seed p0.lms.h with hg | ⟨buf, rfl, hu, hg⟩ | ⟨buf, rfl, hne, hg⟩
  · rw [hg]
    exact ⟨nofun, hh⟩
  · rw [hg]
    dsimp only
    exact ⟨fun e he => ⟨hss_expand_aux_data_auxShaped he, hh buf e rfl hu he⟩, hh⟩
  · -- the fresh view is true for every key; so is whatever a later call makes of the fresh buffer
    rw [hg]
    dsimp only
    have ht := freshAux_cacheTrue H cfg hK (topKey H seed p0) p0.lms.h buf hne
    refine ⟨fun e he => ⟨hss_expand_aux_data_auxShaped he, ht e he⟩, ?_⟩
    intro b e hb _ he
    cases hb
    exact ht e (hss_expand_aux_data_seed_none he)

theorem treeNode_auxInv (H : HashFn) (cfg : Config) (k : LmsKey) (a : Option ExpAux) (ha : AuxInv H cfg k a) :
    AuxInv H cfg k (treeNode H k 1 a).2 := by
  obtain ⟨_, g, f⟩ := through_root H k a (auxInv_good ha)
  exact auxInv_of_frame ha f g

theorem hss_finalize_aux_data_auxInv (H : HashFn) (cfg : Config) (k : LmsKey) (a : Option ExpAux) (seed : Bytes)
    (ha : AuxInv H cfg k a) : AuxInv H cfg k (a.map fun e => hss_finalize_aux_data H cfg e seed) := by
  intro e' he'
  obtain ⟨e, rfl, rfl⟩ := Option.map_eq_some_iff.1 he'
  obtain ⟨h1, h2⟩ := ha e rfl
  exact ⟨auxShaped_of_frame (e := e) rfl h1, cacheTrue_of_layers (e := e) rfl h2⟩

/-- That the key pair does not depend on the buffer (`Props.C10.keygen_transparent`) and that the buffer handed back is
honest (`Props.C10Life.keygen_output_honest`) are the two projections of this equation. -/
theorem hssKeygen_reAux (H : HashFn) (cfg : Config) (ps : List HssParam) (seed : Bytes) (aux : Option Bytes)
    (p0 : HssParam) (htop : keygenTop H cfg ps = some p0) {g : Option ExpAux × Option Bytes × Bytes}
    (hg : getExpandedAuxData H cfg aux seed p0.lms.h = g) (hi : AuxInv H cfg (topKey H seed p0) g.1) :
    ∃ a', AuxInv H cfg (topKey H seed p0) a' ∧
      hssKeygen H cfg ps seed aux = (hssKeygen H cfg ps seed none).map fun o =>
        { o with aux := auxAfter a' g.2.1, auxRest := g.2.2 } := by
  subst hg
  obtain ⟨pb, ps', hb, hp, hh⟩ := keygenTop_eq_some htop
  have h1 := treeNode_auxInv H cfg (topKey H seed p0) _ hi
  refine ⟨keygenView H cfg seed aux (treeNode H (topKey H seed p0) 1 (getExpandedAuxData H cfg aux seed p0.lms.h).1).2,
    ?_, ?_⟩
  · unfold keygenView
    split
    · exact h1
    · exact hss_finalize_aux_data_auxInv H cfg _ _ seed h1
  · -- the root is the only thing the key pair takes from the tree code
    rw [hssKeygen_eq hb hp hh, hssKeygen_eq hb hp hh, (through_root H _ _ (auxInv_good hi)).1]
    rfl

/-- `hu0` and `hl0` are facts about `hss_store_aux_marker` on the zeroed buffer alone. No node value enters: the view the
tree code leaves behind has the frame of the fresh view, and beyond it `hss_finalize_aux_data_accepted` needs only the
lengths of the cached levels. -/
theorem hssKeygen_output_accepted (H : HashFn) (cfg : Config) (hK : cfg.maxTreeHeight ≤ 30) (ps : List HssParam)
    (seed : Bytes) (aux : Option Bytes) (p0 : HssParam) (htop : keygenTop H cfg ps = some p0)
    (hun : ∀ b, aux = some b → hss_is_aux_data_used b = false) {e0 : ExpAux} {m rest : Bytes}
    (hg : getExpandedAuxData H cfg aux seed p0.lms.h = (some e0, some m, rest))
    (hu0 : hss_is_aux_data_used e0.head = true) (hl0 : e0.head = Bytes.u32be e0.level) :
    ∃ o b, hssKeygen H cfg ps seed aux = .ok o ∧ o.aux = some b ∧ hss_is_aux_data_used b = true ∧
      (hss_expand_aux_data H cfg b (some seed)).isSome = true := by
  obtain ⟨pb, ps', hb, hp, hh⟩ := keygenTop_eq_some htop
  obtain ⟨hi, _⟩ := getExpandedAuxData_auxInv H cfg hK aux seed p0 (honest_unmarked H cfg seed p0 aux hun)
  have h1 := treeNode_auxInv H cfg (topKey H seed p0) _ hi
  have hfr := oframe_treeNode H (topKey H seed p0) 1 (getExpandedAuxData H cfg aux seed p0.lms.h).1
  have hnu : auxUsed aux = false := by
    cases aux with
    | none => rfl
    | some b => exact hun b rfl
  rw [hg] at h1 hfr
  obtain ⟨e1, he1, hf1⟩ := oframe_some hfr
  obtain ⟨hs1, hc1⟩ := h1 e1 he1
  have hu : hss_is_aux_data_used e1.head = true := frame_head hf1 ▸ hu0
  refine ⟨_, (hss_finalize_aux_data H cfg e1 seed).bytes, hssKeygen_eq hb hp hh seed aux, ?_, ?_, ?_⟩
  · dsimp only at he1 ⊢
    rw [hg]
    dsimp only
    rw [he1, keygenView, hnu]
    rfl
  · rw [hss_is_aux_data_used_bytes (e := hss_finalize_aux_data H cfg e1 seed) hs1.head_length]
    exact hu
  · exact hss_finalize_aux_data_accepted seed hs1 (layersFit_of_cacheTrue hs1 hc1) hu
      (by rw [frame_head hf1, frame_level hf1]; exact hl0)

/-- `p` with the buffer and the rest handed back replaced by `a` and `r` -/
def reAux (a : Option Bytes) (r : Bytes) : Prepared → Prepared
  | .failed _ _ => .failed a r
  | .ready hs sig _ _ => .ready hs sig a r

theorem signCommit_reAux (n : Nat) (cfg : Config) (cb : Bytes → Bool) (k : RefKey) (a : Option Bytes) (r : Bytes)
    (p : Prepared) :
    signCommit n cfg cb k (reAux a r p) = { signCommit n cfg cb k p with aux := a, auxRest := r } := by
  cases p with
  | failed a' r' => rfl
  | ready hs sig a' r' =>
    unfold reAux
    rw [signCommit_ready, signCommit_ready]

theorem require_bind_ok {α : Type} {site : String} {c : Bool} {g : Unit → P α} {r : α}
    (h : (P.require site c >>= g) = .ok r) : g () = .ok r :=
  (P.require_bind_eq_ok.1 h).2

theorem signBody_reAux (H : HashFn) (cfg : Config) (msg : Bytes) (k : RefKey) (p0 : HssParam)
    (hst : signTop H cfg k = some p0) (e0 : Option ExpAux) (buf : Option Bytes) (rest : Bytes)
    (hi : AuxInv H cfg (topKey H k.seed p0) e0) :
    ∃ a', AuxInv H cfg (topKey H k.seed p0) a' ∧
      signBody H cfg msg k (e0, buf, rest) =
        (signBody H cfg msg k (none, none, [])).map (reAux (auxAfter a' buf) rest) := by
  obtain ⟨a1, e1, g1, f1⟩ := expandPrivateKey_transparent H cfg k p0 hst e0 (auxInv_good hi)
  have hi1 : AuxInv H cfg (topKey H k.seed p0) a1 := auxInv_of_frame hi f1 g1
  -- the run without aux data hands back no view
  obtain ⟨an, en, _, fn⟩ := expandPrivateKey_transparent H cfg k p0 hst none (auxGood_none _ _)
  cases Option.map_eq_none_iff.1 fn
  unfold signBody
  dsimp only
  rw [e1]
  cases hX : expandPrivateKey H cfg k none with
  | error f => exact ⟨e0, hi, rfl⟩
  | ok v =>
    cases v with
    | none => exact ⟨e0, hi, rfl⟩
    | some pr =>
      obtain ⟨ex, e1n⟩ := pr
      have : e1n = none := by
        rw [hX] at en
        simp only [P.map_ok, setAux, Option.map, Except.ok.injEq, Option.some.injEq, Prod.mk.injEq, true_and] at en
        exact en
      subst this
      simp only [P.map_ok, setAux, Option.map, P.ok_bind]
      cases hb : ex.levels.getLast? with
      | none => exact ⟨a1, hi1, rfl⟩
      | some bottom =>
        dsimp only
        generalize signatureRandomizer H bottom.key.seed bottom.key.I bottom.q = C
        rw [ite_self]
        -- either way the bottom tree signs as it does without aux data, with some view `a2` handed back
        obtain ⟨a2, hi2, e2⟩ : ∃ a2, AuxInv H cfg (topKey H k.seed p0) a2 ∧
            lmsSign H cfg bottom.key bottom.q msg C (if ex.levels.length == 1 then a1 else none) =
              (lmsSign H cfg bottom.key bottom.q msg C none).map (Option.map fun p => (p.1, a2)) := by
          by_cases hL : (ex.levels.length == 1) = true
          · -- one level: the bottom tree is the top tree and signs through the view
            rw [if_pos hL]
            obtain ⟨p0', hp0', hkey⟩ := expandPrivateKey_single H cfg k none ex none hX (by simpa using hL) bottom hb
            rw [hst] at hp0'; cases hp0'
            obtain ⟨a2, e2, g2, f2⟩ := lmsSign_transparent H cfg bottom.key bottom.q msg C a1 (hkey ▸ g1)
            exact ⟨a2, auxInv_of_frame hi1 f2 (hkey ▸ g2), e2⟩
          · -- several levels: the view was dropped inside `HssPrivateKey::from`; signing without one hands none back
            rw [if_neg hL]
            obtain ⟨a2, e2, _, f2⟩ := lmsSign_transparent H cfg bottom.key bottom.q msg C none (auxGood_none _ _)
            cases Option.map_eq_none_iff.1 f2
            exact ⟨none, nofun, e2⟩
        rw [e2]
        cases hS : lmsSign H cfg bottom.key bottom.q msg C none with
        | error f => exact ⟨a1, hi1, rfl⟩
        | ok r =>
          cases r with
          | none => exact ⟨a1, hi1, rfl⟩
          | some pr =>
            -- the view handed back: that of the bottom tree if it is the top tree, else that of the expansion
            refine ⟨if ex.levels.length == 1 then a2 else a1, ?_, ?_⟩
            · split
              · exact hi2
              · exact hi1
            · simp only [P.map_ok, Option.map, P.ok_bind, P.map_bind]
              rfl

theorem hssSign_untouched {H : HashFn} {cfg : Config} {sk : Bytes}
    (h : ∀ k, RefKey.parse H.n sk = some k → signTop H cfg k = none) (msg : Bytes) (cb : Bytes → Bool)
    (aux : Option Bytes) : hssSign H cfg msg sk cb aux = .ok ⟨none, [], aux, []⟩ := by
  cases hk : RefKey.parse H.n sk with
  | none => exact hssSign_of_parse_none hk cfg msg cb aux
  | some k =>
    rw [hssSign_of_parse hk, signPrepare_noTop H cfg msg k aux (h k hk)]
    rfl

/-- That signature and successor key do not depend on the buffer (`Props.C10.sign_transparent`) and that the buffer handed
back is honest (`Props.C10Life.sign_output_honest_keyFor`) are the two projections of this equation. -/
theorem hssSign_reAux (H : HashFn) (cfg : Config) (msg sk : Bytes) (cb : Bytes → Bool) (aux : Option Bytes)
    (k : RefKey) (p0 : HssParam) (hk : RefKey.parse H.n sk = some k) (hst : signTop H cfg k = some p0)
    {g : Option ExpAux × Option Bytes × Bytes} (hg : getExpandedAuxData H cfg aux k.seed p0.lms.h = g)
    (hi : AuxInv H cfg (topKey H k.seed p0) g.1) :
    ∃ a', AuxInv H cfg (topKey H k.seed p0) a' ∧
      hssSign H cfg msg sk cb aux = (hssSign H cfg msg sk cb none).map fun o =>
        { o with aux := auxAfter a' g.2.1, auxRest := g.2.2 } := by
  subst hg
  obtain ⟨a', hi', e⟩ := signBody_reAux H cfg msg k p0 hst _ _ _ hi
  refine ⟨a', hi', ?_⟩
  rw [hssSign_of_parse hk, hssSign_of_parse hk, signPrepare_of_top hst, signPrepare_of_top hst, e, P.map_map,
    P.map_map]
  congr 1
  funext p
  exact signCommit_reAux H.n cfg cb k _ _ p

/-- Key bytes that do not parse or whose parameter bytes do not decode - e.g. a wiped key - qualify: signing with them
fails before the aux buffer is looked at. -/
def KeyFor (H : HashFn) (cfg : Config) (seed : Bytes) (p0 : HssParam) (sk : Bytes) : Prop :=
  ∀ k, RefKey.parse H.n sk = some k → ∀ p, signTop H cfg k = some p → k.seed = seed ∧ p = p0

theorem keyFor_of_parse {H : HashFn} {cfg : Config} {sk : Bytes} {k : RefKey} {p0 : HssParam}
    (hk : RefKey.parse H.n sk = some k) (hst : signTop H cfg k = some p0) : KeyFor H cfg k.seed p0 sk := by
  intro k' hk' p hp
  rw [hk] at hk'; cases hk'
  rw [hst] at hp; cases hp
  exact ⟨rfl, rfl⟩

theorem keyFor_increment (H : HashFn) (cfg : Config) (seed : Bytes) (p0 : HssParam) (sk : Bytes) (k : RefKey)
    (hk : KeyFor H cfg seed p0 sk) (hp : RefKey.parse H.n sk = some k) (hs : List Nat) :
    KeyFor H cfg seed p0 (k.increment H.n hs).bytes := by
  obtain ⟨_, hpl, _, _⟩ := RefKey.parse_some hp
  intro k' hp' p hst
  unfold RefKey.increment at hp'
  cases hc : incrementCounter hs k.counter with
  | some c =>
    simp only [hc, RefKey.bytes] at hp'
    obtain ⟨h1, h2⟩ := RefKey.parse_blob hpl hp'
    rw [signTop, h1] at hst
    rw [h2]
    exact hk k hp p hst
  | none =>
    simp only [hc, RefKey.bytes, RefKey.wiped] at hp'
    obtain ⟨h1, _⟩ := RefKey.parse_blob (by simp [REF_IMPL_MAX_ALLOWED_HSS_LEVELS]) hp'
    unfold signTop at hst
    have hw : paramsOfBytes cfg H.n (List.replicate REF_IMPL_MAX_ALLOWED_HSS_LEVELS (UInt8.ofNat PARAM_SET_END)) = none :=
      wiped_params_unusable cfg H.n
    rw [h1, hw] at hst
    cases hst

theorem keyFor_blob (H : HashFn) (cfg : Config) (seed : Bytes) (p0 : HssParam) (pb : Bytes) (c : Nat)
    (hseed : seed.length = H.n) (htop : (paramsOfBytes cfg H.n pb).bind List.head? = some p0) :
    KeyFor H cfg seed p0 (Bytes.u64be c ++ pb ++ seed) := by
  intro k hp p hst
  obtain ⟨hlen, _, _, _⟩ := RefKey.parse_some hp
  have hpl : pb.length = 8 := by
    simp only [List.length_append, Bytes.u64be_length, hseed] at hlen
    omega
  obtain ⟨h1, h2⟩ := RefKey.parse_blob hpl hp
  unfold signTop at hst
  rw [h1, htop] at hst
  exact ⟨h2, (Option.some.inj hst).symm⟩

open Spec in
/-- `callOnce` looks at signature and callback trace only -/
theorem callOnce_honest_aux {H : HashFn} {cfg : Config} (hK : cfg.maxTreeHeight ≤ 30) {seed : Bytes} {p0 : HssParam}
    {sk : Bytes} (c : Call) (hk : KeyFor H cfg seed p0 sk) (hh : Honest H cfg seed p0 c.aux) :
    callOnce H cfg sk c = callOnce H cfg sk { c with aux := none } := by
  unfold callOnce
  rcases signTop_cases H cfg sk with hun | ⟨k, p, hk', hst⟩
  · rw [hssSign_untouched hun, hssSign_untouched hun]
    rfl
  · obtain ⟨rfl, rfl⟩ := hk k hk' p hst
    obtain ⟨_, _, e⟩ := hssSign_reAux H cfg c.msg sk c.cb c.aux k p hk' hst rfl
      (getExpandedAuxData_auxInv H cfg hK c.aux k.seed p hh).1
    rw [e, P.bind_map]

open Spec in
theorem callOnce_keyFor {H : HashFn} {cfg : Config} {seed : Bytes} {p0 : HssParam} {sk : Bytes} {c : Call}
    {r : Bytes × Option Bytes} (hk : KeyFor H cfg seed p0 sk) (h : callOnce H cfg sk c = .ok r) :
    KeyFor H cfg seed p0 r.1 := by
  unfold callOnce at h
  obtain ⟨o, ho, hr⟩ := P.bind_eq_ok.1 h
  cases hr
  rcases hssSign_outcome ho with ⟨-, ht⟩ | ⟨k, hs, _, _, _, hp, -, rfl⟩
  · rw [ht]
    exact hk
  · dsimp only
    split
    · exact keyFor_increment H cfg seed p0 sk k hk hp hs
    · exact hk

open Spec in
theorem session_honest_aux {H : HashFn} {cfg : Config} (hK : cfg.maxTreeHeight ≤ 30) (seed : Bytes) (p0 : HssParam) :
    ∀ (calls : List Call) (sk : Bytes), KeyFor H cfg seed p0 sk → (∀ c ∈ calls, Honest H cfg seed p0 c.aux) →
      session H cfg sk calls = session H cfg sk (calls.map fun c => { c with aux := none })
  | [], _, _, _ => rfl
  | c :: cs, sk, hk, hh => by
    simp only [session, List.map_cons]
    rw [callOnce_honest_aux hK c hk (hh c List.mem_cons_self)]
    refine P.bind_congr_of_map (f := id) (g := id) rfl ?_
    intro r r' hr _ e
    cases e
    rw [session_honest_aux hK seed p0 cs r.1 (callOnce_keyFor hk hr) fun c' hc' => hh c' (List.mem_cons_of_mem _ hc')]

end Lemmas.AuxLifecycle
