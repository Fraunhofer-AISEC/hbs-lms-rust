/-
The compressed parameter set of a private key (`CompressedParameterSet::{to, from}`): eight bytes, one per level,
high nibble LMS type, low nibble LM-OTS type, `PARAM_SET_END` behind the last level. Acceptance by `to` splits into a
half that does not look at the build configuration (`Decodes`) and `withinLimits` level by level; `from` returns for
exactly the lists inside the limits (`FitsBuild`) whose signature length fits a `u16`.
-/
import HbsLms.Impl.Hss
import HbsLms.Lemmas.Tables
import HbsLms.Lemmas.Monad

namespace Lemmas

open Impl Generated

/-- what the loop of `to` makes of one byte -/
def decodeByte (n : Nat) (b : UInt8) : Option HssParam :=
  match Params.lmsFromU32 (b.toNat >>> 4), Params.lmotsFromU32 n (b.toNat &&& 0x0f) with
  | some lms, some ots => some ⟨ots, lms⟩
  | _, _ => none

theorem decodeByte_some {n : Nat} {b : UInt8} {p : HssParam} (h : decodeByte n b = some p) :
    Params.lmsFromU32 (b.toNat >>> 4) = some p.lms ∧ Params.lmotsFromU32 n (b.toNat &&& 0x0f) = some p.ots := by
  unfold decodeByte at h
  split at h
  · cases h
    exact ⟨‹_›, ‹_›⟩
  · cases h

def usedBytes (bs : Bytes) : Bytes := bs.takeWhile fun b => b.toNat != PARAM_SET_END

theorem usedBytes_cons_end {b : UInt8} (hb : (b.toNat == PARAM_SET_END) = true) (rest : Bytes) :
    usedBytes (b :: rest) = [] := by
  simp [usedBytes, bne, hb]

theorem usedBytes_cons {b : UInt8} (hb : ¬ (b.toNat == PARAM_SET_END) = true) (rest : Bytes) :
    usedBytes (b :: rest) = b :: usedBytes rest := by
  rw [Bool.not_eq_true] at hb
  simp [usedBytes, bne, hb]

structure Decodes (n : Nat) (bs : Bytes) (ps : List HssParam) : Prop where
  bytes : (usedBytes bs).map (decodeByte n) = ps.map some
  ne : ps ≠ []
  sigLen : sigLenSupported n ps = true

theorem withinLimits_from_cons (cfg : Config) (k : Nat) (p : HssParam) (ps : List HssParam) :
    (∀ j (h : j < (p :: ps).length), cfg.withinLimits (k + j) (p :: ps)[j] = true) ↔
      cfg.withinLimits k p = true ∧ ∀ j (h : j < ps.length), cfg.withinLimits (k + 1 + j) ps[j] = true := by
  constructor
  · intro h
    refine ⟨h 0 (Nat.succ_pos _), fun j hj => ?_⟩
    have := h (j + 1) (Nat.succ_lt_succ hj)
    rwa [List.getElem_cons_succ, Nat.add_comm j 1, ← Nat.add_assoc] at this
  · rintro ⟨h0, h⟩ j hj
    cases j with
    | zero => exact h0
    | succ j =>
      have := h j (Nat.lt_of_succ_lt_succ hj)
      rwa [Nat.add_assoc, Nat.add_comm 1 j] at this

theorem paramsOfBytes_go_cons (cfg : Config) (n level : Nat) (b : UInt8) (rest : Bytes) (acc : List HssParam) :
    paramsOfBytes.go cfg n level (b :: rest) acc =
      if b.toNat == PARAM_SET_END then paramsOfBytes.go cfg n level [] acc else
      match decodeByte n b with
      | some p => if cfg.withinLimits level p then paramsOfBytes.go cfg n (level + 1) rest (acc ++ [p]) else none
      | none => none := by
  conv => lhs; rw [paramsOfBytes.go]
  by_cases hb : (b.toNat == PARAM_SET_END) = true
  · rw [if_pos hb, if_pos hb, paramsOfBytes.go]
  · rw [if_neg hb, if_neg hb, decodeByte]
    -- both sides compute once the two table lookups are known
    cases Params.lmsFromU32 (b.toNat >>> 4) <;> cases Params.lmotsFromU32 n (b.toNat &&& 0x0f) <;> rfl

theorem paramsOfBytes_go_iff (cfg : Config) (n : Nat) : ∀ (rest : Bytes) (level : Nat) (acc ps : List HssParam),
    paramsOfBytes.go cfg n level rest acc = some ps ↔
      ∃ more, (usedBytes rest).map (decodeByte n) = more.map some ∧ ps = acc ++ more ∧ ps ≠ [] ∧
        sigLenSupported n ps = true ∧ ∀ j (h : j < more.length), cfg.withinLimits (level + j) more[j] = true := by
  have fin : ∀ (level : Nat) (acc ps : List HssParam), paramsOfBytes.go cfg n level [] acc = some ps ↔
      ∃ more : List HssParam, [] = more.map some ∧ ps = acc ++ more ∧ ps ≠ [] ∧
        sigLenSupported n ps = true ∧ ∀ j (h : j < more.length), cfg.withinLimits (level + j) more[j] = true := by
    intro level acc ps
    simp only [paramsOfBytes.go]
    constructor
    · intro h
      split at h
      · cases h
      · rename_i hc
        cases h
        simp only [Bool.or_eq_true, List.isEmpty_iff, Bool.not_eq_true', not_or, Bool.not_eq_false] at hc
        exact ⟨[], rfl, (List.append_nil _).symm, hc.1, hc.2, fun j h => absurd h (Nat.not_lt_zero _)⟩
    · rintro ⟨more, hm, rfl, hne, hsl, _⟩
      obtain rfl : more = [] := List.map_eq_nil_iff.mp hm.symm
      rw [List.append_nil] at hne hsl ⊢
      rw [if_neg]
      simp only [Bool.or_eq_true, List.isEmpty_iff, Bool.not_eq_true', not_or, Bool.not_eq_false]
      exact ⟨hne, hsl⟩
  intro rest
  induction rest with
  | nil => exact fin
  | cons b rest ih =>
    intro level acc ps
    rw [paramsOfBytes_go_cons]
    by_cases hb : (b.toNat == PARAM_SET_END) = true
    · rw [if_pos hb, fin, usedBytes_cons_end hb, List.map_nil]
    · rw [if_neg hb, usedBytes_cons hb, List.map_cons]
      cases hd : decodeByte n b with
      | none =>
        dsimp only
        constructor
        · intro h
          cases h
        · rintro ⟨more, hm, _⟩
          cases more with
          | nil => cases hm
          | cons q more => cases (List.cons.inj hm).1
      | some p =>
        dsimp only
        constructor
        · intro h
          split at h
          · rename_i hw
            obtain ⟨more, hm, rfl, hne, hsl, hlim⟩ := (ih _ _ _).mp h
            rw [List.append_assoc] at hne hsl ⊢
            exact ⟨p :: more, by rw [hm, List.map_cons], rfl, hne, hsl, (withinLimits_from_cons cfg level p more).mpr ⟨hw, hlim⟩⟩
          · cases h
        · rintro ⟨more, hm, rfl, hne, hsl, hlim⟩
          cases more with
          | nil => cases hm
          | cons q more =>
            rw [List.map_cons] at hm
            obtain rfl : p = q := Option.some.inj (List.cons.inj hm).1
            obtain ⟨hw, hlim⟩ := (withinLimits_from_cons cfg level p more).mp hlim
            rw [if_pos hw]
            refine (ih _ _ _).mpr ⟨more, (List.cons.inj hm).2, ?_, hne, hsl, hlim⟩
            rw [List.append_assoc]
            rfl

theorem paramsOfBytes_eq_some_iff {cfg : Config} {n : Nat} {bs : Bytes} {ps : List HssParam} :
    paramsOfBytes cfg n bs = some ps ↔
      Decodes n bs ps ∧ ∀ i (h : i < ps.length), cfg.withinLimits i ps[i] = true := by
  unfold paramsOfBytes
  rw [paramsOfBytes_go_iff]
  simp only [List.nil_append, Nat.zero_add]
  constructor
  · rintro ⟨more, hm, rfl, hne, hsl, hlim⟩
    exact ⟨⟨hm, hne, hsl⟩, hlim⟩
  · rintro ⟨⟨hm, hne, hsl⟩, hlim⟩
    exact ⟨ps, hm, rfl, hne, hsl, hlim⟩

theorem paramsOfBytes_unique {cfg cfg' : Config} {n : Nat} {bs : Bytes} {ps ps' : List HssParam}
    (h : paramsOfBytes cfg n bs = some ps) (h' : paramsOfBytes cfg' n bs = some ps') : ps = ps' :=
  (List.map_inj_right fun _ _ => Option.some.inj).mp
    ((paramsOfBytes_eq_some_iff.mp h).1.bytes.symm.trans (paramsOfBytes_eq_some_iff.mp h').1.bytes)

theorem paramsOfBytes_of_end_first (cfg : Config) (n : Nat) {b : UInt8} (hb : (b.toNat == PARAM_SET_END) = true)
    (rest : Bytes) : paramsOfBytes cfg n (b :: rest) = none := by
  cases h : paramsOfBytes cfg n (b :: rest) with
  | none => rfl
  | some ps =>
    obtain ⟨⟨hm, hne, _⟩, _⟩ := paramsOfBytes_eq_some_iff.mp h
    rw [usedBytes_cons_end hb] at hm
    exact absurd (List.map_eq_nil_iff.mp hm.symm) hne

/-- `(lms_type << 4) + lmots_type` on `u8` -/
def paramByte (p : HssParam) : UInt8 := UInt8.ofNat (((p.lms.typeId % 256) <<< 4) % 256 + p.ots.typeId % 256)

/-- what `from` writes -/
def encodeParams (ps : List HssParam) : Bytes :=
  ps.map paramByte ++ List.replicate (REF_IMPL_MAX_ALLOWED_HSS_LEVELS - ps.length) (UInt8.ofNat PARAM_SET_END)

/-- 8 is `REF_IMPL_MAX_ALLOWED_HSS_LEVELS`, the length of the parameter field of a key blob -/
theorem encodeParams_length {ps : List HssParam} (h : ps.length ≤ 8) : (encodeParams ps).length = 8 := by
  simp only [encodeParams, List.length_append, List.length_map, List.length_replicate, REF_IMPL_MAX_ALLOWED_HSS_LEVELS]
  omega

def FitsBuild (cfg : Config) (ps : List HssParam) : Prop :=
  ps.length ≤ cfg.maxLevels ∧ ∀ i (h : i < ps.length), cfg.withinLimits i ps[i] = true

instance (cfg : Config) (ps : List HssParam) : Decidable (FitsBuild cfg ps) := by
  unfold FitsBuild
  infer_instance

/-- The `match` below is not the constant Lean made for the `match` inside `bytesOfParams` (the two only unfold to the
same term), so this lemma is applied with `.mp`/`.mpr`, not by rewriting. -/
theorem within_loop_iff (cfg : Config) (ps : List HssParam) :
    ((List.range ps.length).all fun i => match ps[i]? with | some p => cfg.withinLimits i p | none => false) = true ↔
      ∀ i (h : i < ps.length), cfg.withinLimits i ps[i] = true := by
  simp only [List.all_eq_true, List.mem_range]
  exact forall_congr' fun i =>
    ⟨fun h hi => by simpa only [List.getElem?_eq_getElem hi] using h hi,
     fun h hi => by simpa only [List.getElem?_eq_getElem hi] using h hi⟩

/-- the two early exits of `from` need no hypothesis on the parameters -/
theorem bytesOfParams_of_not_fits (cfg : Config) (n : Nat) (ps : List HssParam) (h : ¬ FitsBuild cfg ps) :
    bytesOfParams cfg n ps = .ok none := by
  unfold bytesOfParams
  by_cases h1 : ps.length > cfg.maxLevels
  · rw [if_pos h1]
    rfl
  · rw [if_neg h1]
    split
    · rfl
    · rename_i hc
      rw [Bool.not_eq_true', Bool.not_eq_false] at hc
      exact absurd ⟨Nat.not_lt.mp h1, (within_loop_iff cfg ps).mp hc⟩ h

/-- `ht` holds of all table rows (`rows_type_lt`); without it `from` can panic on the `u8` addition -/
theorem bytesOfParams_eq_ite (cfg : Config) (n : Nat) (ps : List HssParam)
    (ht : ∀ p ∈ ps, p.ots.typeId < 16 ∧ p.lms.typeId < 16) :
    bytesOfParams cfg n ps =
      .ok (if FitsBuild cfg ps ∧ sigLenSupported n ps = true then some (encodeParams ps) else none) := by
  by_cases hfit : FitsBuild cfg ps
  · have hm := P.mapM_eq (f := fun (p : HssParam) => do
        let v := ((p.lms.typeId % 256) <<< 4) % 256 + p.ots.typeId % 256
        P.require "hss/reference_impl_private_key.rs:CompressedParameterSet::from u8 overflow" (v < 256)
        pure (UInt8.ofNat v)) (g := paramByte) (l := ps) (by
      intro p hp
      obtain ⟨h1, h2⟩ := ht p hp
      have : ((p.lms.typeId % 256) <<< 4) % 256 + p.ots.typeId % 256 < 256 := by rw [Nat.shiftLeft_eq]; omega
      simp only [this, decide_true, P.require_true, P.ok_bind, P.pure_eq, paramByte])
    unfold bytesOfParams
    rw [if_neg (Nat.not_lt.mpr hfit.1)]
    split
    · rename_i hc
      rw [Bool.not_eq_true', ← Bool.not_eq_true] at hc
      exact absurd ((within_loop_iff cfg ps).mpr hfit.2) hc
    · rw [hm, P.ok_bind, List.length_map]
      cases sigLenSupported n ps
      · simp only [Bool.not_false, Bool.false_eq_true, and_false, if_true, if_false]
        rfl
      · simp only [Bool.not_true, Bool.false_eq_true, hfit, and_self, if_true, if_false]
        rfl
  · rw [bytesOfParams_of_not_fits cfg n ps hfit, if_neg fun hc => hfit hc.1]

theorem rows_type_lt {n : Nat} {ps : List HssParam} (hrows : ∀ p ∈ ps, IsOtsRow n p.ots ∧ IsLmsRow p.lms) :
    ∀ p ∈ ps, p.ots.typeId < 16 ∧ p.lms.typeId < 16 :=
  fun p hp => ⟨Nat.lt_succ_of_lt (ots_row_props (hrows p hp).1).typeId_lt, (lms_row_props (hrows p hp).2).typeId_lt⟩

theorem paramByte_facts {n : Nat} {p : HssParam} (ho : IsOtsRow n p.ots) (hl : IsLmsRow p.lms) :
    (paramByte p).toNat ≠ PARAM_SET_END ∧ Params.lmsFromU32 ((paramByte p).toNat >>> 4) = some p.lms ∧
    Params.lmotsFromU32 n ((paramByte p).toNat &&& 0x0f) = some p.ots := by
  have h2 := (ots_row_props ho).typeId_lt
  have h4 := (lms_row_props hl).typeId_lt
  have hv : (paramByte p).toNat = p.lms.typeId * 16 + p.ots.typeId := by
    simp only [paramByte, UInt8.toNat_ofNat', Nat.shiftLeft_eq]
    omega
  have hand : (p.lms.typeId * 16 + p.ots.typeId) &&& 15 = (p.lms.typeId * 16 + p.ots.typeId) % 16 :=
    Nat.and_two_pow_sub_one_eq_mod _ 4
  rw [hv, Nat.shiftRight_eq_div_pow, hand]
  have e1 : (p.lms.typeId * 16 + p.ots.typeId) / 2 ^ 4 = p.lms.typeId := by omega
  have e2 : (p.lms.typeId * 16 + p.ots.typeId) % 16 = p.ots.typeId := by omega
  rw [e1, e2]
  exact ⟨by simp only [PARAM_SET_END]; omega, (lms_row_props hl).fromU32, (ots_row_props ho).fromU32⟩

theorem decodes_encode {n : Nat} {ps : List HssParam} (hrows : ∀ p ∈ ps, IsOtsRow n p.ots ∧ IsLmsRow p.lms)
    (hne : ps ≠ []) (hsl : sigLenSupported n ps = true) (k : Nat) :
    Decodes n (ps.map paramByte ++ List.replicate k (UInt8.ofNat PARAM_SET_END)) ps := by
  refine ⟨?_, hne, hsl⟩
  have hu : usedBytes (ps.map paramByte ++ List.replicate k (UInt8.ofNat PARAM_SET_END)) = ps.map paramByte := by
    unfold usedBytes
    rw [List.takeWhile_append_of_pos, List.takeWhile_replicate, if_neg (by decide), List.append_nil]
    intro b hb
    obtain ⟨p, hp, rfl⟩ := List.mem_map.mp hb
    simpa using (paramByte_facts (hrows p hp).1 (hrows p hp).2).1
  rw [hu, List.map_map]
  apply List.map_congr_left
  intro p hp
  obtain ⟨_, h1, h2⟩ := paramByte_facts (hrows p hp).1 (hrows p hp).2
  simp only [Function.comp, decodeByte, h1, h2]

theorem bytesOfParams_roundtrip {cfg : Config} {n : Nat} {ps : List HssParam}
    (hrows : ∀ p ∈ ps, IsOtsRow n p.ots ∧ IsLmsRow p.lms) (hne : ps ≠ []) (hfit : FitsBuild cfg ps)
    (hsl : sigLenSupported n ps = true) :
    bytesOfParams cfg n ps = .ok (some (encodeParams ps)) ∧ paramsOfBytes cfg n (encodeParams ps) = some ps :=
  ⟨by rw [bytesOfParams_eq_ite cfg n ps (rows_type_lt hrows), if_pos ⟨hfit, hsl⟩],
   paramsOfBytes_eq_some_iff.mpr ⟨decodes_encode hrows hne hsl _, hfit.2⟩⟩

end Lemmas
