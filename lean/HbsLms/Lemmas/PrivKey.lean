/-
The private-key blob codec (`ReferenceImplPrivateKey::{to,from}_binary_representation`), and one call of
`hss_sign_core` as parse, `signPrepare`, `signCommit`: what the call returns, in closed form; `try_sign` as that call
with an accepting callback.
-/
import HbsLms.Lemmas.ParamSet
import HbsLms.Lemmas.Bytes

namespace Lemmas

open Impl Generated

def blobLen (n : Nat) : Nat := REF_IMPL_MAX_PRIVATE_KEY_SIZE - MAX_SEED_LEN + n

theorem blobLen_eq (n : Nat) : blobLen n = 16 + n := by
  simp [blobLen, REF_IMPL_MAX_PRIVATE_KEY_SIZE, MAX_SEED_LEN]

/-- the checked reads of `from_binary_representation` cannot fail once the length test passed -/
theorem RefKey.parse_eq (n : Nat) (data : Bytes) :
    RefKey.parse n data =
      if data.length = 16 + n then
        some ⟨Bytes.toNat (data.take 8), (data.drop 8).take 8, (data.drop 16).take n⟩
      else none := by
  unfold RefKey.parse
  by_cases h : data.length = 16 + n
  · have h1 : ¬ (data.length != REF_IMPL_MAX_PRIVATE_KEY_SIZE - MAX_SEED_LEN + n) = true := by
      simp [REF_IMPL_MAX_PRIVATE_KEY_SIZE, MAX_SEED_LEN, h]
    have h8 : 8 ≤ 16 + n := by omega
    simp [readAt, Bytes.slice, h, h8, REF_IMPL_MAX_PRIVATE_KEY_SIZE, MAX_SEED_LEN, HSS_COMPRESSED_USED_LEAFS_SIZE,
      REF_IMPL_MAX_ALLOWED_HSS_LEVELS, bind, Option.bind, pure]
  · have h1 : (data.length != REF_IMPL_MAX_PRIVATE_KEY_SIZE - MAX_SEED_LEN + n) = true := by
      simp [REF_IMPL_MAX_PRIVATE_KEY_SIZE, MAX_SEED_LEN, h]
    simp [h1, h]

theorem RefKey.parse_some {n : Nat} {data : Bytes} {k : RefKey} (h : RefKey.parse n data = some k) :
    data.length = 16 + n ∧ k.params.length = 8 ∧ k.seed.length = n ∧
      k = ⟨Bytes.toNat (data.take 8), (data.drop 8).take 8, (data.drop 16).take n⟩ := by
  rw [RefKey.parse_eq] at h
  split at h
  · rename_i hl
    simp only [Option.some.injEq] at h
    subst h
    refine ⟨hl, ?_, ?_, rfl⟩ <;> simp [List.length_take, List.length_drop, hl] <;> omega
  · simp at h

theorem RefKey.parse_append {n : Nat} {c pb sd : Bytes} (hc : c.length = 8) (hpb : pb.length = 8) (hsd : sd.length = n) :
    RefKey.parse n (c ++ pb ++ sd) = some ⟨Bytes.toNat c, pb, sd⟩ := by
  rw [RefKey.parse_eq, if_pos (by simp only [List.length_append, hc, hpb, hsd])]
  have h16 : (c ++ pb).length = 16 := by simp only [List.length_append, hc, hpb]
  rw [List.append_assoc, List.take_left' hc, List.drop_left' hc, List.take_left' hpb, ← List.append_assoc,
    List.drop_left' h16, List.take_of_length_le (Nat.le_of_eq hsd)]

theorem RefKey.parse_bytes (n : Nat) (k : RefKey) (hp : k.params.length = 8) (hs : k.seed.length = n)
    (hc : k.counter < 2 ^ 64) : RefKey.parse n k.bytes = some k := by
  rw [RefKey.bytes, RefKey.parse_append (Bytes.u64be_length _) hp hs, Bytes.toNat_u64be_of_lt hc]

theorem RefKey.parse_blob {n c : Nat} {pb sd : Bytes} {k : RefKey} (hpb : pb.length = 8)
    (h : RefKey.parse n (Bytes.u64be c ++ pb ++ sd) = some k) : k.params = pb ∧ k.seed = sd := by
  have hsd : sd.length = n := by
    have := (RefKey.parse_some h).1
    simp only [List.length_append, Bytes.u64be_length, hpb] at this
    omega
  rw [RefKey.parse_append (Bytes.u64be_length _) hpb hsd] at h
  cases h
  exact ⟨rfl, rfl⟩

theorem RefKey.parse_counter_replaced {n : Nat} {k0 k : RefKey} {c : Nat} (hs : k0.seed.length = n)
    (h : RefKey.parse n (Bytes.u64be c ++ k0.bytes.drop 8) = some k) : k.params = k0.params ∧ k.seed = k0.seed := by
  rw [RefKey.bytes, List.append_assoc, List.drop_left' (Bytes.u64be_length _), ← List.append_assoc] at h
  have hl := (RefKey.parse_some h).1
  simp only [List.length_append, Bytes.u64be_length, hs] at hl
  exact RefKey.parse_blob (by omega) h

theorem RefKey.parse_counter_lt {n : Nat} {data : Bytes} {k : RefKey} (h : RefKey.parse n data = some k) :
    k.counter < 2 ^ 64 := by
  obtain ⟨hl, _, _, rfl⟩ := RefKey.parse_some h
  have := Bytes.toNat_lt (data.take 8)
  rwa [List.length_take, Nat.min_eq_left (by omega)] at this

theorem RefKey.bytes_length (k : RefKey) : k.bytes.length = 8 + k.params.length + k.seed.length := by
  simp [RefKey.bytes, Bytes.u64be, Bytes.be_length, Nat.add_assoc]

theorem RefKey.increment_bytes_length (k : RefKey) (n : Nat) (hs : List Nat) (hp : k.params.length = 8)
    (hsd : k.seed.length = n) : (k.increment n hs).bytes.length = 16 + n := by
  unfold RefKey.increment
  split
  · simp [RefKey.bytes_length, hp, hsd]
  · simp [RefKey.bytes_length, RefKey.wiped, REF_IMPL_MAX_ALLOWED_HSS_LEVELS, Bytes.zeros]

theorem wiped_params_unusable (cfg : Config) (n : Nat) : paramsOfBytes cfg n (RefKey.wiped n).params = none :=
  paramsOfBytes_of_end_first cfg n (b := UInt8.ofNat PARAM_SET_END) (by decide) _

theorem hssSign_of_parse_none {H : HashFn} {sk : Bytes} (hk : RefKey.parse H.n sk = none) (cfg : Config)
    (msg : Bytes) (cb : Bytes → Bool) (aux : Option Bytes) :
    hssSign H cfg msg sk cb aux = .ok ⟨none, [], aux, []⟩ := by
  simp only [hssSign, hk]
  rfl

theorem hssSign_of_parse {H : HashFn} {sk : Bytes} {k : RefKey} (hk : RefKey.parse H.n sk = some k) (cfg : Config)
    (msg : Bytes) (cb : Bytes → Bool) (aux : Option Bytes) :
    hssSign H cfg msg sk cb aux = (signPrepare H cfg msg k aux).map (signCommit H.n cfg cb k) := by
  simp only [hssSign, hk]
  cases signPrepare H cfg msg k aux <;> rfl

theorem hssSign_parsed {H : HashFn} {cfg : Config} {msg sk : Bytes} {cb : Bytes → Bool} {aux : Option Bytes}
    {o : SignOutcome} {k : RefKey} (hk : RefKey.parse H.n sk = some k) (h : hssSign H cfg msg sk cb aux = .ok o) :
    ∃ p, signPrepare H cfg msg k aux = .ok p ∧ o = signCommit H.n cfg cb k p := by
  rw [hssSign_of_parse hk] at h
  obtain ⟨p, hp, rfl⟩ := P.map_eq_ok.mp h
  exact ⟨p, hp, rfl⟩

theorem signCommit_ready (n : Nat) (cfg : Config) (cb : Bytes → Bool) (k : RefKey) (hs : List Nat)
    (sig : Bytes) (a : Option Bytes) (r : Bytes) :
    signCommit n cfg cb k (.ready hs sig a r)
      = ⟨if cb (k.increment n hs).bytes && !(sig.length > 65535 || sig.length > cfg.maxHssSigLen) then some sig else none,
         [(k.increment n hs).bytes], a, r⟩ := by
  simp only [signCommit]
  cases cb (k.increment n hs).bytes <;> cases (decide (sig.length > 65535) || decide (sig.length > cfg.maxHssSigLen)) <;> rfl

theorem hssSign_outcome {H : HashFn} {cfg : Config} {msg sk : Bytes} {cb : Bytes → Bool} {aux : Option Bytes}
    {o : SignOutcome} (h : hssSign H cfg msg sk cb aux = .ok o) :
    (o.result = none ∧ o.trace = []) ∨
    ∃ k hs sig a r, RefKey.parse H.n sk = some k ∧ signPrepare H cfg msg k aux = .ok (.ready hs sig a r) ∧
      o = ⟨if cb (k.increment H.n hs).bytes && !(sig.length > 65535 || sig.length > cfg.maxHssSigLen)
            then some sig else none, [(k.increment H.n hs).bytes], a, r⟩ := by
  cases hk : RefKey.parse H.n sk with
  | none => rw [hssSign_of_parse_none hk] at h; cases h; exact Or.inl ⟨rfl, rfl⟩
  | some k =>
    obtain ⟨p, hp, rfl⟩ := hssSign_parsed hk h
    cases p with
    | failed a r => exact Or.inl ⟨rfl, rfl⟩
    | ready hs sig a r => exact Or.inr ⟨k, hs, sig, a, r, rfl, hp, signCommit_ready ..⟩

/-- `hssSign_outcome` case by case: the callback rejected; it accepted and the signature is released; it accepted and
`signCommit` withholds a signature that does not fit the signature object -/
theorem hssSign_outcome_cases {H : HashFn} {cfg : Config} {msg sk : Bytes} {cb : Bytes → Bool} {aux : Option Bytes}
    {o : SignOutcome} (h : hssSign H cfg msg sk cb aux = .ok o) :
    (o.result = none ∧ o.trace = []) ∨
    ∃ k hs sig a r, RefKey.parse H.n sk = some k ∧ signPrepare H cfg msg k aux = .ok (.ready hs sig a r) ∧
      o.trace = [(k.increment H.n hs).bytes] ∧
      ((cb (k.increment H.n hs).bytes = false ∧ o.result = none) ∨
       (cb (k.increment H.n hs).bytes = true ∧ o.result = some sig) ∨
       (cb (k.increment H.n hs).bytes = true ∧ o.result = none ∧
          (sig.length > 65535 ∨ sig.length > cfg.maxHssSigLen))) := by
  rcases hssSign_outcome h with hn | ⟨k, hs, sig, a, r, hk, hp, rfl⟩
  · exact .inl hn
  · refine .inr ⟨k, hs, sig, a, r, hk, hp, rfl, ?_⟩
    cases cb (k.increment H.n hs).bytes
    · exact .inl ⟨rfl, rfl⟩
    · cases hl : (decide (sig.length > 65535) || decide (sig.length > cfg.maxHssSigLen))
      · exact .inr (.inl ⟨rfl, rfl⟩)
      · exact .inr (.inr ⟨rfl, rfl, by simpa using hl⟩)

theorem hssSign_released {H : HashFn} {cfg : Config} {msg sk : Bytes} {cb : Bytes → Bool} {aux : Option Bytes}
    {o : SignOutcome} {sig : Bytes} (h : hssSign H cfg msg sk cb aux = .ok o) (hr : o.result = some sig) :
    ∃ k hs a r, RefKey.parse H.n sk = some k ∧ signPrepare H cfg msg k aux = .ok (.ready hs sig a r) ∧
      cb (k.increment H.n hs).bytes = true ∧ o = ⟨some sig, [(k.increment H.n hs).bytes], a, r⟩ ∧
      sig.length ≤ 65535 ∧ sig.length ≤ cfg.maxHssSigLen := by
  rcases hssSign_outcome h with ⟨hn, -⟩ | ⟨k, hs, sg, a, r, hk, hp, rfl⟩
  · rw [hn] at hr; cases hr
  · dsimp only at hr
    split at hr
    · rename_i hc
      cases hr
      simp only [Bool.and_eq_true, Bool.not_eq_true', Bool.or_eq_false_iff, decide_eq_false_iff_not, Nat.not_lt] at hc
      exact ⟨k, hs, a, r, hk, hp, hc.1, by rw [if_pos (by simpa using hc)], hc.2⟩
    · cases hr

theorem hssSign_not_accepted {H : HashFn} {cfg : Config} {msg sk : Bytes} {cb : Bytes → Bool} {aux : Option Bytes}
    {o : SignOutcome} (h : hssSign H cfg msg sk cb aux = .ok o) (hno : ∀ k', k' ∈ o.trace → cb k' = false) :
    o.result = none := by
  rcases hssSign_outcome h with ⟨hr, -⟩ | ⟨k, hs, sig, a, r, -, -, rfl⟩
  · exact hr
  · simp only [hno _ (List.mem_singleton.mpr rfl), Bool.false_and, Bool.false_eq_true, if_false]

theorem hssSign_trace_length {H : HashFn} {cfg : Config} {msg sk : Bytes} {cb : Bytes → Bool} {aux : Option Bytes}
    {o : SignOutcome} (h : hssSign H cfg msg sk cb aux = .ok o) {k' : Bytes} (ht : o.trace = [k']) :
    k'.length = sk.length := by
  rcases hssSign_outcome h with ⟨-, ht'⟩ | ⟨k, hs, _, _, _, hk, -, rfl⟩
  · rw [ht'] at ht; cases ht
  · cases ht
    obtain ⟨hl, hp, hsd, -⟩ := RefKey.parse_some hk
    rw [RefKey.increment_bytes_length k H.n hs hp hsd, hl]

/-- `try_sign` is `sign` with an accepting callback, whatever `sign` returns; the key it keeps is the one the callback
was handed (the closure's `copy_from_slice` gets a key of the right length, `hssSign_trace_length`). Key bytes that do
not fit the `SigningKey` are refused before anything happens. -/
theorem trySign_eq (H : HashFn) (cfg : Config) (msg sk : Bytes) (aux : Option Bytes) :
    trySign H cfg msg sk aux =
      if sk.length > Config.maxPrivKeyLen then .ok none
      else (hssSign H cfg msg sk (fun _ => true) aux).map fun o =>
        some (o, match o.trace with | [k'] => k' | _ => sk) := by
  unfold trySign
  split
  · rfl
  · cases ho : hssSign H cfg msg sk (fun _ => true) aux with
    | error e => rfl
    | ok o =>
      rw [P.ok_bind, P.map_ok]
      match hm : o.trace with
      | [] => rfl
      | [k'] =>
        have hlen : (k'.length == sk.length) = true := beq_iff_eq.mpr (hssSign_trace_length ho hm)
        simp only [hlen, P.require_true, P.ok_bind, P.pure_eq]
      | _ :: _ :: _ => rfl

/-- an assembled signature fits the signature object (`u16` length, `MAX_HSS_SIGNATURE_LENGTH`) -/
def SigFits (cfg : Config) : Prepared → Prop
  | .failed _ _ => True
  | .ready _ sig _ _ => sig.length ≤ 65535 ∧ sig.length ≤ cfg.maxHssSigLen

theorem signCommit_ready_of_fits {cfg : Config} {hs : List Nat} {sig : Bytes} {a : Option Bytes} {r : Bytes}
    (h : SigFits cfg (.ready hs sig a r)) (n : Nat) (cb : Bytes → Bool) (k : RefKey) :
    signCommit n cfg cb k (.ready hs sig a r)
      = ⟨if cb (k.increment n hs).bytes then some sig else none, [(k.increment n hs).bytes], a, r⟩ := by
  have h1 : decide (sig.length > 65535) = false := decide_eq_false (Nat.not_lt.mpr h.1)
  have h2 : decide (sig.length > cfg.maxHssSigLen) = false := decide_eq_false (Nat.not_lt.mpr h.2)
  rw [signCommit_ready, h1, h2, Bool.or_false, Bool.not_false, Bool.and_true]

theorem signCommit_indep {cfg cfg' : Config} {p : Prepared} (h : SigFits cfg p) (h' : SigFits cfg' p) (n : Nat)
    (cb : Bytes → Bool) (k : RefKey) : signCommit n cfg cb k p = signCommit n cfg' cb k p := by
  cases p with
  | failed a r => rfl
  | ready hs sig a r => rw [signCommit_ready_of_fits h, signCommit_ready_of_fits h']

end Lemmas
