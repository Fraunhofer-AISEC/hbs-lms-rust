/-
C15 + C01 + C04, end to end: a signature released by `hss_sign_mut` (feature `fast_verify`) verifies. A releasing call
has passed every check and is `hssSign` of the returned message `body ‖ trailer`
(`Lemmas.FastVerify.hssSignMut_refused` / `hssSignMut_accepted`), so C01 and C04 apply to it. Any `H : HashFn`, no
cryptographic assumption; the key is the one `hssKeygen` returned, with any value `c` in its 8 counter bytes
(`Props.C01.blobWithCounter`).
-/
import HbsLms.Props.C01Aux
import HbsLms.Props.C15
import HbsLms.Props.C04
import HbsLms.Lemmas.SignTotal

namespace Props.C15Verify

open Impl Lemmas Props.C01

/-- key bytes that do not parse (wrong length) are refused by `sign_mut` -/
theorem unparsable_key_is_refused (H : HashFn) (cfg : Config) (msg trailer sk : Bytes) (cb : Bytes → Bool)
    (hk : RefKey.parse H.n sk = none) :
    hssSignMut H cfg msg trailer sk cb = .ok (⟨none, [], none, []⟩, msg) :=
  FastVerify.hssSignMut_refused H cfg msg trailer sk cb fun ha => by
    obtain ⟨_, _, h, _⟩ := ha.key
    cases hk.symm.trans h

/-- a key whose parameter bytes do not decode (e.g. the wiped key) is refused by `sign_mut` -/
theorem undecodable_params_are_refused (H : HashFn) (cfg : Config) (msg trailer sk : Bytes) (cb : Bytes → Bool)
    (k : RefKey) (hk : RefKey.parse H.n sk = some k) (hp : paramsOfBytes cfg H.n k.params = none) :
    hssSignMut H cfg msg trailer sk cb = .ok (⟨none, [], none, []⟩, msg) :=
  FastVerify.hssSignMut_refused H cfg msg trailer sk cb fun ha => by
    obtain ⟨_, _, h, h'⟩ := ha.key
    cases hk.symm.trans h
    cases hp.symm.trans h'

/-- on a call that passes the checks, a trailer of the wrong length is the panic of `copy_from_slice` -/
theorem wrong_trailer_length_faults (H : HashFn) (cfg : Config) (msg trailer sk : Bytes) (cb : Bytes → Bool)
    (k : RefKey) (ps : List HssParam) (hl : ¬ msg.length ≤ H.n)
    (hz : Bytes.allZero (msg.drop (msg.length - H.n)) = true)
    (hk : RefKey.parse H.n sk = some k) (hp : paramsOfBytes cfg H.n k.params = some ps)
    (ht : trailer.length ≠ H.n) :
    ∃ f, hssSignMut H cfg msg trailer sk cb = .error f := by
  rw [FastVerify.hssSignMut_accepted H cfg msg trailer sk cb ⟨Nat.not_le.1 hl, hz, k, ps, hk, hp⟩,
    beq_eq_false_iff_ne.2 ht]
  exact ⟨_, rfl⟩

/-- A call of `sign_mut` that releases a signature passed the checks, had a trailer of `n` bytes, and is `hssSign` of the
message it hands back: everything proved of `hssSign` applies to it. -/
theorem release_is_ordinary_signing {H : HashFn} {cfg : Config} {msg trailer sk : Bytes} {cb : Bytes → Bool}
    {o : SignOutcome} {msg' sig : Bytes}
    (hsm : hssSignMut H cfg msg trailer sk cb = .ok (o, msg')) (hres : o.result = some sig) :
    FastVerify.Accepted H cfg msg sk ∧ trailer.length = H.n ∧
    msg' = msg.take (msg.length - H.n) ++ trailer ∧ hssSign H cfg msg' sk cb none = .ok o := by
  by_cases ha : FastVerify.Accepted H cfg msg sk
  · rw [FastVerify.hssSignMut_accepted H cfg msg trailer sk cb ha] at hsm
    by_cases ht : trailer.length = H.n
    · rw [beq_iff_eq.2 ht] at hsm
      obtain ⟨o', hs, e⟩ := P.map_eq_ok.mp hsm
      cases e
      exact ⟨ha, ht, rfl, hs⟩
    · rw [beq_eq_false_iff_ne.2 ht] at hsm
      cases hsm
  · rw [FastVerify.hssSignMut_refused H cfg msg trailer sk cb ha] at hsm
    cases hsm
    cases hres

/-- the preconditions of `sign_mut` are consequences of a release, not assumptions about the caller -/
theorem release_implies_preconditions {H : HashFn} {cfg : Config} {msg trailer sk : Bytes} {cb : Bytes → Bool}
    {o : SignOutcome} {msg' sig : Bytes}
    (hsm : hssSignMut H cfg msg trailer sk cb = .ok (o, msg')) (hres : o.result = some sig) :
    H.n < msg.length ∧ Bytes.allZero (msg.drop (msg.length - H.n)) = true ∧ trailer.length = H.n ∧
    ∃ k ps, RefKey.parse H.n sk = some k ∧ paramsOfBytes cfg H.n k.params = some ps :=
  have ⟨⟨hl, hz, hkp⟩, ht, _⟩ := release_is_ordinary_signing hsm hres
  ⟨hl, hz, ht, hkp⟩

/-- With a trailer of exactly `n` bytes `sign_mut` never faults (well-formed build configuration; any message, key
bytes and callback): it is refused (message untouched) or it is ordinary signing, which never panics
(`Lemmas.hssSign_ok`). -/
theorem sign_mut_never_faults (H : HashFn) (cfg : Config) (hwf : cfg.wellFormed = true) (msg trailer sk : Bytes)
    (cb : Bytes → Bool) (ht : trailer.length = H.n) : ∃ r, hssSignMut H cfg msg trailer sk cb = .ok r := by
  by_cases ha : FastVerify.Accepted H cfg msg sk
  · obtain ⟨o, ho⟩ := Lemmas.hssSign_ok H cfg hwf (msg.take (msg.length - H.n) ++ trailer) sk cb none
    rw [FastVerify.hssSignMut_accepted H cfg msg trailer sk cb ha, beq_iff_eq.2 ht, ho]
    exact ⟨_, rfl⟩
  · exact ⟨_, FastVerify.hssSignMut_refused H cfg msg trailer sk cb ha⟩

/-- **`sign_mut` releases only signatures that verify.** If `hssKeygen` (no aux data) returned `(skb, vk)` and
`hssSignMut`, run on `skb` with its 8 counter bytes set to `c`, releases `sig` and the message `msg'`, then `hssVerify`
accepts `sig` for `msg'` under `vk`; `msg'` is the input with its last `n` bytes, which were zero, replaced by the
trailer; and the callback was invoked exactly once, with the complete successor key, and reported success. ANY message
and ANY trailer: a releasing call has met the three preconditions (`release_implies_preconditions`). -/
theorem sign_mut_released_signature_verifies (H : HashFn) (cfg : Config) (ps0 : List HssParam)
    (seed msg trailer : Bytes) (c : Nat) (cb : Bytes → Bool) (skb vk : Bytes) (a0 : Option Bytes) (r0 : Bytes)
    (o : SignOutcome) (msg' sig : Bytes)
    (hseed : seed.length = H.n)
    (hk : hssKeygen H cfg ps0 seed none = .ok ⟨some (skb, vk), a0, r0⟩)
    (hsm : hssSignMut H cfg msg trailer (blobWithCounter skb c) cb = .ok (o, msg'))
    (hres : o.result = some sig) :
    hssVerify H cfg msg' sig vk = .ok true ∧
    H.n < msg.length ∧ Bytes.allZero (msg.drop (msg.length - H.n)) = true ∧ trailer.length = H.n ∧
    msg' = msg.take (msg.length - H.n) ++ trailer ∧
    msg'.length = msg.length ∧
    msg'.take (msg.length - H.n) = msg.take (msg.length - H.n) ∧
    msg'.drop (msg.length - H.n) = trailer ∧
    hssSign H cfg msg' (blobWithCounter skb c) cb none = .ok o ∧
    ∃ k heights, RefKey.parse H.n (blobWithCounter skb c) = some k ∧
      o.trace = [(k.increment H.n heights).bytes] ∧ cb (k.increment H.n heights).bytes = true ∧
      (k.increment H.n heights).bytes.length = (blobWithCounter skb c).length := by
  obtain ⟨⟨hl, hz, _⟩, ht, hm, hs⟩ := release_is_ordinary_signing hsm hres
  have hv := released_signature_verifies H cfg ps0 seed msg' c cb skb vk a0 r0 o sig hseed hk hs hres
  obtain ⟨k, heights, hpk, htr, hcb⟩ :=
    Props.C04.signature_only_after_accepted_callback H cfg msg' (blobWithCounter skb c) cb none o sig hs hres
  obtain ⟨hlen, htake⟩ := Props.C15.returned_message_shape msg trailer H.n (by omega) ht
  subst hm
  exact ⟨hv, hl, hz, ht, rfl, hlen, htake, List.drop_left' (by rw [List.length_take]; omega), hs, k, heights, hpk,
    htr, hcb, Props.C04.successor_key_same_length H.n _ k heights hpk⟩

/-- **`sign_mut` releases only signatures that verify**, with the three preconditions stated as hypotheses (a releasing
call implies them, so they are not used). -/
theorem sign_mut_signature_verifies (H : HashFn) (cfg : Config) (ps0 : List HssParam) (seed msg trailer : Bytes)
    (c : Nat) (cb : Bytes → Bool) (skb vk : Bytes) (a0 : Option Bytes) (r0 : Bytes) (o : SignOutcome)
    (msg' sig : Bytes)
    (hseed : seed.length = H.n)
    (hk : hssKeygen H cfg ps0 seed none = .ok ⟨some (skb, vk), a0, r0⟩)
    (hl : H.n < msg.length) (_hz : Bytes.allZero (msg.drop (msg.length - H.n)) = true)
    (ht : trailer.length = H.n)
    (hsm : hssSignMut H cfg msg trailer (blobWithCounter skb c) cb = .ok (o, msg'))
    (hres : o.result = some sig) :
    hssVerify H cfg msg' sig vk = .ok true ∧
    msg' = msg.take (msg.length - H.n) ++ trailer ∧
    msg'.length = msg.length ∧
    msg'.take (msg.length - H.n) = msg.take (msg.length - H.n) ∧
    msg'.drop (msg.length - H.n) = trailer ∧
    hssSign H cfg msg' (blobWithCounter skb c) cb none = .ok o ∧
    ∃ k heights, RefKey.parse H.n (blobWithCounter skb c) = some k ∧
      o.trace = [(k.increment H.n heights).bytes] ∧ cb (k.increment H.n heights).bytes = true ∧
      (k.increment H.n heights).bytes.length = (blobWithCounter skb c).length := by
  obtain ⟨h1, _, _, _, h⟩ :=
    sign_mut_released_signature_verifies H cfg ps0 seed msg trailer c cb skb vk a0 r0 o msg' sig hseed hk hsm hres
  exact ⟨h1, h⟩

/-- **With the optimiser's trailer.** The trailer computed by `optimizeTrailer` (`optimize_message_hash`: any
table row `prm`, any bytes `pre` hashed before the trailer, any worker start values, any number of iterations) has
exactly `n` bytes (`Props.C15Worker.optimize_never_faults`); so whatever `hssSignMut` releases with it verifies for
the returned message `body ‖ t`. -/
theorem sign_mut_with_optimizeTrailer_verifies (H : HashFn) (cfg : Config) {prm : LmotsParam}
    (hg : OtsRowGood H.n prm = true) (pre : Bytes) (starts : List Bytes) (iters : Nat) (t : Bytes)
    (hopt : optimizeTrailer H prm pre starts iters = .ok t)
    (ps0 : List HssParam) (seed msg : Bytes) (c : Nat) (cb : Bytes → Bool) (skb vk : Bytes) (a0 : Option Bytes)
    (r0 : Bytes) (o : SignOutcome) (msg' sig : Bytes)
    (hseed : seed.length = H.n)
    (hk : hssKeygen H cfg ps0 seed none = .ok ⟨some (skb, vk), a0, r0⟩)
    (hl : H.n < msg.length) (hz : Bytes.allZero (msg.drop (msg.length - H.n)) = true)
    (hsm : hssSignMut H cfg msg t (blobWithCounter skb c) cb = .ok (o, msg'))
    (hres : o.result = some sig) :
    hssVerify H cfg msg' sig vk = .ok true ∧
    msg' = msg.take (msg.length - H.n) ++ t ∧
    msg'.length = msg.length ∧
    msg'.take (msg.length - H.n) = msg.take (msg.length - H.n) ∧
    msg'.drop (msg.length - H.n) = t ∧
    hssSign H cfg msg' (blobWithCounter skb c) cb none = .ok o ∧
    ∃ k heights, RefKey.parse H.n (blobWithCounter skb c) = some k ∧
      o.trace = [(k.increment H.n heights).bytes] ∧ cb (k.increment H.n heights).bytes = true ∧
      (k.increment H.n heights).bytes.length = (blobWithCounter skb c).length := by
  -- a releasing call has checked the trailer's length itself: nothing about the optimiser is needed
  obtain ⟨h1, _, _, _, h⟩ :=
    sign_mut_released_signature_verifies H cfg ps0 seed msg t c cb skb vk a0 r0 o msg' sig hseed hk hsm hres
  exact ⟨h1, h⟩

/-- **Any arrival order of the worker results.** The same for the trailer the receiving loop ends with under any
permutation `arrivals` of the workers' results (every schedule of the worker threads). -/
theorem sign_mut_with_optimized_trailer_verifies (H : HashFn) (cfg : Config) {prm : LmotsParam}
    (hg : OtsRowGood H.n prm = true) (pre : Bytes) (starts : List Bytes) (iters : Nat)
    (results arrivals : List (Nat × Bytes))
    (hwork : starts.mapM (fun start => workerRun H prm pre start iters) = .ok results)
    (hperm : arrivals.Perm results)
    (ps0 : List HssParam) (seed msg : Bytes) (c : Nat) (cb : Bytes → Bool) (skb vk : Bytes) (a0 : Option Bytes)
    (r0 : Bytes) (o : SignOutcome) (msg' sig : Bytes)
    (hseed : seed.length = H.n)
    (hk : hssKeygen H cfg ps0 seed none = .ok ⟨some (skb, vk), a0, r0⟩)
    (hl : H.n < msg.length) (hz : Bytes.allZero (msg.drop (msg.length - H.n)) = true)
    (hsm : hssSignMut H cfg msg (selectTrailer arrivals (Bytes.zeros H.n)) (blobWithCounter skb c) cb
      = .ok (o, msg'))
    (hres : o.result = some sig) :
    hssVerify H cfg msg' sig vk = .ok true ∧
    msg' = msg.take (msg.length - H.n) ++ selectTrailer arrivals (Bytes.zeros H.n) ∧
    msg'.length = msg.length ∧
    msg'.take (msg.length - H.n) = msg.take (msg.length - H.n) := by
  obtain ⟨h1, _, _, _, h3, h4, h5, _⟩ :=
    sign_mut_released_signature_verifies H cfg ps0 seed msg _ c cb skb vk a0 r0 o msg' sig hseed hk hsm hres
  exact ⟨h1, h3, h4, h5⟩

/-- **Key generated with an auxiliary buffer.** `sign_mut` itself never takes aux data, but the key may have been
generated with a buffer `auxK`. Under the cache-truth hypothesis of `Props.C01.released_signature_verifies_with_aux`
for `auxK` (vacuous for absent / unmarked buffers), whatever `hssSignMut` releases verifies under the public key
returned by that key generation. `cfg.maxTreeHeight ≤ 30`: see the head of Props/C10. -/
theorem sign_mut_signature_verifies_keygen_aux (H : HashFn) (cfg : Config) (hK : cfg.maxTreeHeight ≤ 30)
    (ps0 : List HssParam) (seed msg trailer : Bytes) (c : Nat) (cb : Bytes → Bool) (auxK : Option Bytes)
    (ko : KeygenOutcome) (skb vk : Bytes) (o : SignOutcome) (msg' sig : Bytes)
    (hseed : seed.length = H.n)
    (hk : hssKeygen H cfg ps0 seed auxK = .ok ko) (hkr : ko.result = some (skb, vk))
    (hsm : hssSignMut H cfg msg trailer (blobWithCounter skb c) cb = .ok (o, msg'))
    (hres : o.result = some sig)
    (husedK : ∀ p0 buf e, AuxCache.keygenTop H cfg ps0 = some p0 → auxK = some buf →
      hss_is_aux_data_used buf = true →
      hss_expand_aux_data H cfg buf (some seed) = some e → AuxCache.CacheTrue H (AuxCache.topKey H seed p0) e) :
    hssVerify H cfg msg' sig vk = .ok true ∧ msg' = msg.take (msg.length - H.n) ++ trailer := by
  obtain ⟨_, _, hm, hs⟩ := release_is_ordinary_signing hsm hres
  refine ⟨?_, hm⟩
  exact released_signature_verifies_with_aux H cfg hK ps0 seed msg' c cb auxK none ko skb vk o sig hseed hk hkr
    hs hres husedK (fun _ _ _ _ _ _ hb => by cases hb)

end Props.C15Verify

#print axioms Props.C15Verify.unparsable_key_is_refused
#print axioms Props.C15Verify.undecodable_params_are_refused
#print axioms Props.C15Verify.wrong_trailer_length_faults
#print axioms Props.C15Verify.release_implies_preconditions
#print axioms Props.C15Verify.release_is_ordinary_signing
#print axioms Props.C15Verify.sign_mut_never_faults
#print axioms Props.C15Verify.sign_mut_signature_verifies
#print axioms Props.C15Verify.sign_mut_released_signature_verifies
#print axioms Props.C15Verify.sign_mut_with_optimizeTrailer_verifies
#print axioms Props.C15Verify.sign_mut_with_optimized_trailer_verifies
#print axioms Props.C15Verify.sign_mut_signature_verifies_keygen_aux
