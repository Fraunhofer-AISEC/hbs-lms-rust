/-
Key generation. Without aux data `hssKeygen` returns the blob and the serialised public key of the top tree, in closed
form. It refines the hash-sigs / RFC 8554 specification `Spec.HashSigs`: the in-place patched buffers of
`rootSeedAndId` and `seedDerive` are the concatenations of the specification, the chain starts / chain ends / tree
nodes of the model are the RFC's `x`, `y`, `OTS_PUB`, `T[r]`, and `bytesOfParams` produces the nibble-packed
parameter bytes.
-/
import HbsLms.Spec.HashSigs
import HbsLms.Lemmas.CompleteLms
import HbsLms.Lemmas.NormalForm
import HbsLms.Lemmas.ParamSet

namespace Lemmas.KeygenRefine

open Impl Generated Lemmas.Complete Lemmas.Layout

theorem hssKeygen_none_eq {H : HashFn} {cfg : Config} {ps : List HssParam} {pb : Bytes} {ps' : List HssParam}
    {p0 : HssParam} (hb : bytesOfParams cfg H.n ps = .ok (some pb)) (hp : paramsOfBytes cfg H.n pb = some ps')
    (hh : ps'.head? = some p0) (seed : Bytes) :
    hssKeygen H cfg ps seed none = .ok
      ⟨AuxCache.keygenResult pb seed ps'.length (rootKey H seed p0) (T H (rootKey H seed p0) p0.lms.h 1), none, []⟩ := by
  rw [AuxCache.hssKeygen_eq hb hp hh]
  simp only [getExpandedAuxData, treeNode_root]
  rfl

theorem hssKeygen_none_top_inv {H : HashFn} {cfg : Config} {ps : List HssParam} {seed : Bytes} {o : KeygenOutcome}
    (h : hssKeygen H cfg ps seed none = .ok o) (hr : o.result ≠ none) :
    ∃ pb ps' p0, bytesOfParams cfg H.n ps = .ok (some pb) ∧ paramsOfBytes cfg H.n pb = some ps' ∧
      ps'.head? = some p0 := by
  cases ht : AuxCache.keygenTop H cfg ps with
  | none =>
    rw [AuxCache.hssKeygen_noTop ht] at h
    obtain ⟨_, -, rfl⟩ := P.map_eq_ok.1 h
    exact absurd rfl hr
  | some p0 =>
    obtain ⟨pb, ps', hb, hp, hh⟩ := AuxCache.keygenTop_eq_some ht
    exact ⟨pb, ps', p0, hb, hp, hh⟩

theorem hssKeygen_none_inv {H : HashFn} {cfg : Config} {ps0 : List HssParam} {seed skb vk : Bytes} {a0 : Option Bytes}
    {r0 : Bytes} (h : hssKeygen H cfg ps0 seed none = .ok ⟨some (skb, vk), a0, r0⟩) :
    ∃ pb ps p0, bytesOfParams cfg H.n ps0 = .ok (some pb) ∧ skb = (RefKey.mk 0 pb seed).bytes ∧
      paramsOfBytes cfg H.n pb = some ps ∧ ps.head? = some p0 ∧
      vk = Bytes.u32be ps.length ++ pkBytes H (rootKey H seed p0) := by
  obtain ⟨pb, ps, p0, hb, hp, hh⟩ := hssKeygen_none_top_inv h (fun h0 => nomatch h0)
  rw [hssKeygen_none_eq hb hp hh] at h
  obtain ⟨hres, -, -⟩ := KeygenOutcome.mk.inj (Except.ok.inj h)
  obtain ⟨rfl, rfl⟩ := AuxCache.keygenResult_eq_some hres
  exact ⟨pb, ps, p0, hb, rfl, hp, hh, rfl⟩

/-! The numerals are the constants of `Generated/Consts.lean` (constants.rs): the top-seed buffer has
`TOPSEED_LEN = 55` bytes with fields at `TOPSEED_D = 20`, `TOPSEED_WHICH = 22`, `TOPSEED_SEED = 23`; the PRNG buffer
has fields at `PRNG_I = 0`, `PRNG_Q = 16`, `PRNG_J = 20`, `PRNG_FF = 22`, `PRNG_SEED = 23`; `32` is `MAX_HASH_SIZE`. -/

theorem topseed_buf (s : Bytes) (hs : s.length ≤ 32) :
    Bytes.patch (Bytes.patch (Bytes.zeros TOPSEED_LEN) TOPSEED_D (Bytes.u16be D_TOPSEED)) TOPSEED_SEED s
      = (Bytes.zeros 20 ++ [0xfe, 0xfe] ++ [0]) ++ s ++ Bytes.zeros (32 - s.length) := by
  have hD : Bytes.u16be D_TOPSEED = [0xfe, 0xfe] := by decide
  -- the zero buffer split at the field boundaries
  have hz : Bytes.zeros 55 = Bytes.zeros 20 ++ Bytes.zeros 2 ++ (Bytes.zeros 1 ++
      (Bytes.zeros s.length ++ Bytes.zeros (32 - s.length))) := by
    rw [List.append_assoc, ← Bytes.zeros_add, ← Bytes.zeros_add, ← Bytes.zeros_add, ← Bytes.zeros_add,
      Nat.add_sub_cancel' hs]
  simp only [TOPSEED_LEN, TOPSEED_D, TOPSEED_SEED, hD]
  rw [hz, Bytes.patch_mid (s := 20) (Bytes.zeros_length _).symm (by simp)]
  have h1 : Bytes.zeros 1 = [0] := rfl
  rw [h1]
  rw [← List.append_assoc _ [0], ← List.append_assoc _ (Bytes.zeros s.length),
    Bytes.patch_mid (s := 23) (by simp) (Bytes.zeros_length _).symm]

theorem rootSeedAndId_eq (H : HashFn) (seed : Bytes) (hs : seed.length = H.n) (hn : H.n ≤ 32) :
    rootSeedAndId H seed = Spec.HashSigs.topSeed H seed := by
  unfold rootSeedAndId
  simp only []
  rw [topseed_buf seed (by omega)]
  have hh : ∀ x, (H.h x).length = seed.length := fun x => by rw [H.len_h, hs]
  simp only [TOPSEED_SEED, TOPSEED_WHICH, ILEN]
  rw [Bytes.patch_mid (s := 23) (by simp) (hh _), List.append_assoc _ _ (Bytes.zeros (32 - seed.length)),
    Bytes.patch_mid (m := [0]) (v := [1]) (s := 22) (by simp) rfl,
    Bytes.patch_mid (m := [0]) (v := [2]) (s := 22) (by simp) rfl]
  simp only [Spec.HashSigs.topSeed, Spec.HashSigs.topSeedBuf, Spec.HashSigs.D_TOPSEED, Spec.u8str, spec_zeros,
    Spec.HashSigs.maxSeed, hh, List.append_assoc]
  rfl

theorem seedDerive_eq (H : HashFn) (seed I : Bytes) (q j : Nat) (hI : I.length = 16) (hs : seed.length ≤ 32) :
    seedDerive H seed I q j = Spec.HashSigs.prng H seed I q j := by
  unfold seedDerive
  have hz : Bytes.zeros (prng_len MAX_HASH_SIZE) = [] ++ Bytes.zeros 16 ++ (Bytes.zeros 4 ++ (Bytes.zeros 2 ++
      (Bytes.zeros 1 ++ (Bytes.zeros seed.length ++ Bytes.zeros (32 - seed.length))))) := by
    rw [List.nil_append, ← Bytes.zeros_add, ← Bytes.zeros_add, ← Bytes.zeros_add, ← Bytes.zeros_add, ← Bytes.zeros_add,
      Nat.add_sub_cancel' hs]
    rfl
  simp only [PRNG_I, PRNG_Q, PRNG_J, PRNG_FF, PRNG_SEED]
  -- each field is patched over the head of what is still zero: regroup so that it is the middle piece
  have e1 : ∀ (a b c : Bytes), a ++ (b ++ c) = a ++ b ++ c := fun a b c => (List.append_assoc a b c).symm
  rw [hz, Bytes.patch_mid (v := I) (s := 0) rfl (by rw [Bytes.zeros_length, hI]), List.nil_append, e1 I,
    Bytes.patch_mid (v := Bytes.u32be q) (s := 16) hI.symm (by rw [Bytes.zeros_length, Bytes.u32be_length]),
    e1 (I ++ Bytes.u32be q),
    Bytes.patch_mid (v := Bytes.u16be j) (s := 20) (by simp [hI]) (by rw [Bytes.zeros_length, Bytes.u16be_length]),
    e1 (I ++ Bytes.u32be q ++ Bytes.u16be j),
    Bytes.patch_mid (m := Bytes.zeros 1) (v := [0xff]) (s := 22) (by simp [hI]) rfl,
    e1 (I ++ Bytes.u32be q ++ Bytes.u16be j ++ [0xff]),
    Bytes.patch_mid (v := seed) (s := 23) (by simp [hI]) (Bytes.zeros_length _).symm]
  simp only [Spec.HashSigs.prng, Refine.u32str_eq, Refine.u16str_eq, Spec.u8str, spec_zeros, Spec.HashSigs.maxSeed,
    List.append_assoc]
  rfl

theorem childSeedAndId_eq (H : HashFn) (seed I : Bytes) (q : Nat) (hI : I.length = 16) (hs : seed.length ≤ 32) :
    childSeedAndId H seed I q = (Spec.HashSigs.childSeed H seed I q, Spec.HashSigs.childI H seed I q) := by
  simp only [childSeedAndId, seedDerive_eq H seed I q _ hI hs, Spec.HashSigs.childSeed, Spec.HashSigs.childI,
    SEED_CHILD_SEED, ILEN]

theorem signatureRandomizer_eq (H : HashFn) (seed I : Bytes) (q : Nat) (hI : I.length = 16) (hs : seed.length ≤ 32) :
    signatureRandomizer H seed I q = Spec.HashSigs.randomizer H seed I q := by
  simp only [signatureRandomizer, seedDerive_eq H seed I q _ hI hs, Spec.HashSigs.randomizer,
    SEED_SIGNATURE_RANDOMIZER_SEED]

theorem lmotsPublicKey_eq (H : HashFn) (I seed : Bytes) (q : Nat) (prm : LmotsParam) :
    lmotsPublicKey H I (Bytes.u32be q) prm (lmotsPrivateKey H I (Bytes.u32be q) seed prm)
      = Spec.HashSigs.otsPub H I seed prm.w prm.p q := by
  unfold lmotsPublicKey Spec.HashSigs.otsPub
  simp only [Refine.u32str_eq]
  have hm : (List.range prm.p).map (fun i => chain H I (Bytes.u32be q) i
        ((lmotsPrivateKey H I (Bytes.u32be q) seed prm).getD i []) 0 (2 ^ prm.w - 1))
      = (List.range prm.p).map fun i => Spec.HashSigs.y H I seed prm.w q i := by
    apply List.map_congr_left
    intro i hi
    rw [lmotsPrivateKey_getD H I _ seed prm (List.mem_range.mp hi), Refine.chain_eq]
    simp only [Spec.HashSigs.y, Spec.HashSigs.x, Refine.u32str_eq, Refine.u16str_eq, Spec.u8str]
    rfl
  rw [hm]
  rfl

theorem leafNode_eq (H : HashFn) (k : LmsKey) (r : Nat) :
    leafNode H k r = Spec.HashSigs.T H k.I k.seed k.ots.w k.ots.p k.lms.h 0 r := by
  unfold leafNode
  simp only [lmotsPublicKey_eq, Spec.HashSigs.T, Refine.u32str_eq]
  rfl

theorem T_eq (H : HashFn) (k : LmsKey) : ∀ (d r : Nat),
    Complete.T H k d r = Spec.HashSigs.T H k.I k.seed k.ots.w k.ots.p k.lms.h d r := by
  intro d
  induction d with
  | zero => intro r; simp only [Complete.T, leafNode_eq]
  | succ d ih =>
    intro r
    simp only [Complete.T, Spec.HashSigs.T, ih, Refine.u32str_eq]
    rfl

theorem pkBytes_eq (H : HashFn) (k : LmsKey) :
    pkBytes H k = Spec.HashSigs.lmsPublicKey H k.I k.seed ⟨k.ots, k.lms⟩ := by
  simp only [pkBytes, lmsPublicKeyBytes, T_eq, Spec.HashSigs.lmsPublicKey, Spec.HashSigs.root, Refine.u32str_eq]

theorem paramByte_eq {n : Nat} {p : HssParam} (ho : IsOtsRow n p.ots) (hl : IsLmsRow p.lms) :
    Lemmas.paramByte p = Spec.HashSigs.paramByte p.lms.typeId p.ots.typeId := by
  have h1 := (ots_row_props ho).typeId_lt
  have h2 := (lms_row_props hl).typeId_lt
  simp only [Lemmas.paramByte, Spec.HashSigs.paramByte, Nat.shiftLeft_eq]
  congr 1
  omega

theorem encodeParams_eq {n : Nat} {ps : List HssParam} (hrows : ∀ p ∈ ps, IsOtsRow n p.ots ∧ IsLmsRow p.lms) :
    encodeParams ps = ps.map (fun p => Spec.HashSigs.paramByte p.lms.typeId p.ots.typeId) ++
      List.replicate (8 - ps.length) 0xff := by
  rw [encodeParams, List.map_congr_left fun x hx => paramByte_eq (hrows x hx).1 (hrows x hx).2]
  rfl

/-- seed and identifier have the lengths the derivation is laid out for (`I` as in `GoodKey`) -/
structure LevelLens (H : HashFn) (l : Level) : Prop where
  I : l.key.I.length = 16
  seed : l.key.seed.length = H.n

theorem prng_length (H : HashFn) (seed I : Bytes) (q j : Nat) : (Spec.HashSigs.prng H seed I q j).length = H.n :=
  H.len_h _

theorem childLevel_lens (H : HashFn) (parent : Level) (p : HssParam) (q : Nat) (h16 : 16 ≤ H.n) :
    LevelLens H (childLevel H parent p q) :=
  ⟨(childSeedAndId_I_length H _ _ _).trans (Nat.min_eq_left h16), seedDerive_length H _ _ _ _⟩

theorem childLevel_eq_spec (H : HashFn) (parent : Level) (p : HssParam) (q : Nat) (hp : LevelLens H parent)
    (hn : H.n ≤ 32) :
    (childLevel H parent p q).key.seed = Spec.HashSigs.childSeed H parent.key.seed parent.key.I parent.q ∧
    (childLevel H parent p q).key.I = Spec.HashSigs.childI H parent.key.seed parent.key.I parent.q := by
  have e := childSeedAndId_eq H parent.key.seed parent.key.I parent.q hp.I (by rw [hp.seed]; exact hn)
  constructor <;> simp only [childLevel, e]

theorem rootKey_eq (H : HashFn) (seed : Bytes) (p0 : HssParam) (hs : seed.length = H.n) (hn : H.n ≤ 32) :
    rootKey H seed p0 = ⟨(Spec.HashSigs.topSeed H seed).2, (Spec.HashSigs.topSeed H seed).1, p0.ots, p0.lms⟩ := by
  simp only [rootKey, rootSeedAndId_eq H seed hs hn]

theorem topLevel_lens (H : HashFn) (seed : Bytes) (p0 : HssParam) (rest : List HssParam) (c : Nat)
    (h16 : 16 ≤ H.n) : LevelLens H (topLevel H seed p0 rest c) :=
  ⟨(rootSeedAndId_I_length H seed).trans (Nat.min_eq_left h16), rootSeedAndId_seed_length H seed⟩

theorem levels_lens (H : HashFn) (seed : Bytes) (p0 : HssParam) (rest : List HssParam) (c : Nat) (h16 : 16 ≤ H.n) :
    ∀ l ∈ topLevel H seed p0 rest c :: lowerLevels H seed p0 rest c, LevelLens H l := by
  intro l hl
  rcases List.mem_cons.1 hl with rfl | hl
  · exact topLevel_lens H seed p0 rest c h16
  · exact childrenOf_forall H _ rest 1 _ (fun l p q _ _ => childLevel_lens H l p q h16)
      (topLevel_lens H seed p0 rest c h16) l hl

end Lemmas.KeygenRefine
