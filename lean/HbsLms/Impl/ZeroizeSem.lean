/-
C16 semantics: a small model of values, of `zeroize()` and of drop glue, against which the decidable side
conditions of `Impl/Zeroize.lean` (`owners`, `wipedOnDrop`, `wipedByZeroize`, `SecretsCovered`) are justified
(`Lemmas/ZeroizeSem.lean`, `Props/C16Sem.lean`).

A value is a tree: the leaves are the bytes a field stores itself (`raw`, flagged when these bytes are secret
material), the inner nodes are struct values (one child per declared field, in declaration order) and
containers of owned values inside one field (`many`: arrays, `ArrayVec`, tuples, `Option`).

Semantics assumed for the `zeroize` crate (trusted base, same as `Impl/Zeroize.lean`):
* `#[derive(Zeroize)]`: `zeroize()` zeroizes every field that is not marked `#[zeroize(skip)]`, recursively;
  plain bytes become 0; a field whose struct type does not derive `Zeroize` is left unchanged (in Rust that
  does not compile unless the type has a hand-written `Zeroize` impl; unchanged is the pessimistic reading);
* `#[derive(ZeroizeOnDrop)]`: `drop` first runs `zeroize()`, then the drop glue drops every field;
* a struct without `ZeroizeOnDrop`: the drop glue drops every field; plain bytes are left as they are.
-/
import HbsLms.Impl.Zeroize

namespace Impl.ZeroizeSem

open Generated Impl.Zeroize

inductive Val where
  /-- the bytes a field stores itself; `secret` = these bytes are secret material -/
  | raw (secret : Bool) (bytes : List UInt8)
  /-- a value of struct `idx`: one `Val` per declared field, in declaration order -/
  | struct (idx : Nat) (fields : List Val)
  /-- arrays / `ArrayVec` / tuples of owned values inside one field -/
  | many (vs : List Val)
deriving Repr

/-! ### typing -/

mutual
/-- `v` may be the content of a field declared as `f`:
a `rawSecret` field holds secret bytes (`raw true`, or a container of such);
any other field holds non-secret bytes (`raw false`) and well-typed structs whose index is in `f.owns`
(directly or inside containers). -/
def fieldWt (ds : List StructDecl) (f : FieldDecl) : Val → Bool
  | .raw s _ => s == f.rawSecret
  | .many vs => allFieldWt ds f vs
  | .struct i fs =>
    !f.rawSecret && f.owns.contains i &&
      match declAt ds i with
      | some d => fieldsWt ds d.fields fs
      | none => false
/-- every element of a container is a possible content of field `f` -/
def allFieldWt (ds : List StructDecl) (f : FieldDecl) : List Val → Bool
  | [] => true
  | v :: vs => fieldWt ds f v && allFieldWt ds f vs
/-- the field values match the declared fields one by one -/
def fieldsWt (ds : List StructDecl) : List FieldDecl → List Val → Bool
  | [], [] => true
  | f :: fs, v :: vs => fieldWt ds f v && fieldsWt ds fs vs
  | _, _ => false
end

/-- a well-typed struct value: its index is declared and its fields match the declaration -/
def WellTyped (ds : List StructDecl) : Val → Bool
  | .struct i fs =>
    match declAt ds i with
    | some d => fieldsWt ds d.fields fs
    | none => false
  | _ => false

/-! ### secret bytes still in memory -/

mutual
/-- number of non-zero bytes inside the `raw true` leaves -/
def secretsLeft : Val → Nat
  | .raw s bs => if s then bs.countP (· != 0) else 0
  | .struct _ fs => secretsLeftAll fs
  | .many vs => secretsLeftAll vs
def secretsLeftAll : List Val → Nat
  | [] => 0
  | v :: vs => secretsLeft v + secretsLeftAll vs
end

/-! ### `zeroize()` -/

mutual
/-- what `zeroize()` does to a value -/
def zeroizeVal (ds : List StructDecl) : Val → Val
  | .raw s bs => .raw s (List.replicate bs.length 0)
  | .many vs => .many (zeroizeAll ds vs)
  | .struct i fs =>
    match declAt ds i with
    | some d => if d.zeroize then .struct i (zeroizeFields ds d.fields fs) else .struct i fs
    | none => .struct i fs
def zeroizeAll (ds : List StructDecl) : List Val → List Val
  | [] => []
  | v :: vs => zeroizeVal ds v :: zeroizeAll ds vs
/-- the derived `zeroize()`: every field that is not marked `skip` is zeroized -/
def zeroizeFields (ds : List StructDecl) : List FieldDecl → List Val → List Val
  | f :: fs, v :: vs => (if f.skip then v else zeroizeVal ds v) :: zeroizeFields ds fs vs
  | _, vs => vs
end

@[simp] theorem zeroizeFields_nil (ds : List StructDecl) (vs : List Val) : zeroizeFields ds [] vs = vs := by
  rw [zeroizeFields]; intros; contradiction

/-- `zeroize()` rewrites the fields of a struct value by `zeroizeFields`, with no declarations (so: not at all) when
the struct does not derive it. Whatever holds of `zeroizeFields ds gs` for every `gs` holds of `zeroize()`. -/
theorem zeroizeVal_struct (ds : List StructDecl) (i : Nat) (fs : List Val) :
    ∃ gs, zeroizeVal ds (.struct i fs) = .struct i (zeroizeFields ds gs fs) := by
  unfold zeroizeVal
  split
  · split
    · exact ⟨_, rfl⟩
    · exact ⟨[], by simp⟩
  · exact ⟨[], by simp⟩

/-! ### drop -/

mutual
/-- number of nodes (termination measure of `dropVal`; `zeroizeVal` preserves it) -/
def Val.size : Val → Nat
  | .raw _ _ => 1
  | .struct _ fs => 1 + sizeAll fs
  | .many vs => 1 + sizeAll vs
def sizeAll : List Val → Nat
  | [] => 0
  | v :: vs => 1 + v.size + sizeAll vs
end

mutual
theorem size_zeroizeVal (ds : List StructDecl) : ∀ v : Val, (zeroizeVal ds v).size = v.size
  | .raw _ _ => by simp [zeroizeVal, Val.size]
  | .many vs => by simp [zeroizeVal, Val.size, sizeAll_zeroizeAll ds vs]
  | .struct i fs => by
    obtain ⟨gs, h⟩ := zeroizeVal_struct ds i fs
    rw [h, Val.size, Val.size, sizeAll_zeroizeFields ds gs fs]
theorem sizeAll_zeroizeAll (ds : List StructDecl) : ∀ vs : List Val, sizeAll (zeroizeAll ds vs) = sizeAll vs
  | [] => by simp [zeroizeAll]
  | v :: vs => by simp [zeroizeAll, sizeAll, size_zeroizeVal ds v, sizeAll_zeroizeAll ds vs]
theorem sizeAll_zeroizeFields (ds : List StructDecl) :
    ∀ (gs : List FieldDecl) (vs : List Val), sizeAll (zeroizeFields ds gs vs) = sizeAll vs
  | _, [] => by cases ‹List FieldDecl› <;> simp [zeroizeFields]
  | [], _ :: _ => by simp [zeroizeFields]
  | g :: gs, v :: vs => by
    simp only [zeroizeFields, sizeAll, sizeAll_zeroizeFields ds gs vs]
    split
    · rfl
    · rw [size_zeroizeVal ds v]
end

theorem size_lt_of_mem {v : Val} {vs : List Val} (h : v ∈ vs) : v.size < 1 + sizeAll vs := by
  induction vs with
  | nil => cases h
  | cons w ws ih =>
    simp only [sizeAll]
    rcases List.mem_cons.1 h with rfl | h
    · omega
    · have := ih h
      omega

/-- the fields as the drop glue finds them: `ZeroizeOnDrop` has run `zeroize()` first -/
def preDrop (ds : List StructDecl) (i : Nat) (fs : List Val) : List Val :=
  match declAt ds i with
  | some d => if d.zeroize && d.zeroizeOnDrop then zeroizeFields ds d.fields fs else fs
  | none => fs

/-- the same for the drop glue -/
theorem preDrop_eq (ds : List StructDecl) (i : Nat) (fs : List Val) :
    ∃ gs, preDrop ds i fs = zeroizeFields ds gs fs := by
  unfold preDrop
  split
  · split
    · exact ⟨_, rfl⟩
    · exact ⟨[], by simp⟩
  · exact ⟨[], by simp⟩

theorem sizeAll_preDrop (ds : List StructDecl) (i : Nat) (fs : List Val) :
    sizeAll (preDrop ds i fs) = sizeAll fs := by
  obtain ⟨gs, h⟩ := preDrop_eq ds i fs
  rw [h, sizeAll_zeroizeFields]

/-- the memory a value leaves behind when it is dropped
(`attach` only records `v ∈ preDrop ds i fs` for the termination proof; see `dropVal_struct`) -/
def dropVal (ds : List StructDecl) : Val → Val
  | .raw s bs => .raw s bs
  | .many vs => .many (vs.map (dropVal ds))
  | .struct i fs => .struct i ((preDrop ds i fs).attach.map fun v => dropVal ds v.1)
termination_by v => v.size
decreasing_by
  · rename_i h
    simp only [Val.size]
    exact size_lt_of_mem h
  · simp only [Val.size]
    have := size_lt_of_mem v.2
    rw [sizeAll_preDrop] at this
    exact this

theorem dropVal_raw (ds : List StructDecl) (s : Bool) (bs : List UInt8) :
    dropVal ds (.raw s bs) = .raw s bs := by
  rw [dropVal]

theorem dropVal_many (ds : List StructDecl) (vs : List Val) :
    dropVal ds (.many vs) = .many (vs.map (dropVal ds)) := by
  rw [dropVal]

/-- `ZeroizeOnDrop` structs: `zeroize()` first, then every field is dropped; other structs: every field is dropped -/
theorem dropVal_struct (ds : List StructDecl) (i : Nat) (fs : List Val) :
    dropVal ds (.struct i fs) = .struct i ((preDrop ds i fs).map (dropVal ds)) := by
  rw [dropVal]
  congr 1
  exact List.attach_map_val

/-! ### extra side conditions (what the Rust compiler checks for the derives) -/

/-- `#[derive(Zeroize, ZeroizeOnDrop)]` only wipes a non-skipped field as far as the field's own type is wiped:
every secret-bearing struct owned by a non-skipped field of such a struct is itself wiped on drop.
(Implied by `SecretsCovered`.) -/
def DeriveSound (ds : List StructDecl) : Bool :=
  ds.all fun d => !(d.zeroize && d.zeroizeOnDrop) ||
    d.fields.all fun f => f.skip ||
      (f.owns.filter ((owners ds).contains ·)).all fun j => wipedOnDrop ds (owners ds) ds.length j

/-- the same for an explicit `zeroize()`: every secret-bearing struct owned by a non-skipped field of a
`#[derive(Zeroize)]` struct is itself wiped by `zeroize()`. -/
def ZeroizeSound (ds : List StructDecl) : Bool :=
  ds.all fun d => !d.zeroize ||
    d.fields.all fun f => f.skip ||
      (f.owns.filter ((owners ds).contains ·)).all fun j => wipedByZeroize ds (owners ds) j

end Impl.ZeroizeSem
