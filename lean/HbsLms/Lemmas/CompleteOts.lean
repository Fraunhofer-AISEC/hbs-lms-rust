/-
Completeness of LM-OTS: hash chains compose, the signer's and the verifier's digits coincide, the verifier
finishes every chain the signer started, so the candidate computed from a released LM-OTS signature is the
LM-OTS public key. `H : HashFn` is arbitrary throughout (no cryptographic assumption).
-/
import HbsLms.Lemmas.LmsRefine

namespace Lemmas.Complete

open Impl Generated Spec.AppendixB

theorem chainFrom_add (H : HashFn) (I qb : Bytes) (i : Nat) : ∀ (a b j : Nat) (x : Bytes),
    chainFrom H I qb i (a + b) j x = chainFrom H I qb i b (j + a) (chainFrom H I qb i a j x) := by
  intro a
  induction a with
  | zero => intro b j x; simp [chainFrom]
  | succ a ih =>
    intro b j x
    rw [Nat.succ_add]
    simp only [chainFrom]
    rw [ih]
    congr 1
    omega

theorem chain_compose (H : HashFn) (I qb : Bytes) (i : Nat) (x : Bytes) (a m : Nat) (h : a ≤ m) :
    chain H I qb i (chain H I qb i x 0 a) a m = chain H I qb i x 0 m := by
  unfold chain
  have : m - 0 = (a - 0) + (m - a) := by omega
  rw [this, chainFrom_add]
  simp

theorem chainFrom_length (H : HashFn) (I qb : Bytes) (i : Nat) : ∀ (cnt j : Nat) (x : Bytes), x.length = H.n →
    (chainFrom H I qb i cnt j x).length = H.n := by
  intro cnt
  induction cnt with
  | zero => intro j x hx; simpa [chainFrom] using hx
  | succ c ih =>
    intro j x _
    simp only [chainFrom]
    exact ih _ _ (H.len_h _)

theorem lmotsPrivateKey_getD (H : HashFn) (I qb seed : Bytes) (prm : LmotsParam) {i : Nat} (hi : i < prm.p) :
    (lmotsPrivateKey H I qb seed prm).getD i [] = H.h (I ++ qb ++ Bytes.u16be i ++ [0xff] ++ seed) := by
  unfold lmotsPrivateKey
  rw [List.getD_eq_getElem?_getD]
  simp [hi]

/-- The `[]` for a fault makes this a total function of any parameters, so that `digits_inv` and `lmotsSign_inv` need no
hypothesis on the row. -/
def qcOf (n : Nat) (prm : LmotsParam) (Q : Bytes) : Bytes :=
  match append_checksum_to n prm Q with
  | .ok r => r
  | .error _ => []

/-- digit `i` of the digest `Q` followed by its checksum, as `digits` computes it: the number of chain steps the signer
takes on chain `i`; on a table row it is the RFC's `coef` (`digitOf_eq`) -/
def digitOf (n : Nat) (prm : LmotsParam) (Q : Bytes) (i : Nat) : Nat := coefVal (qcOf n prm Q) i prm.w

theorem digitOf_le (n : Nat) (prm : LmotsParam) (Q : Bytes) (i : Nat) : digitOf n prm Q i ≤ 2 ^ prm.w - 1 := by
  unfold digitOf; rw [← Digits.coefMask_eq]; exact Nat.and_le_right

theorem coef_inv {bs : Bytes} {i w c : Nat} (h : coef bs i w = .ok c) : c = coefVal bs i w := by
  obtain ⟨b, hb, h⟩ := P.bind_eq_ok.1 h
  rw [← P.pure_eq_ok.1 h, coefVal, List.getD_eq_getElem?_getD, P.idx_eq_ok.1 hb]
  rfl

theorem digits_inv {n : Nat} {prm : LmotsParam} {Q : Bytes} {ds : List Nat} (h : digits n prm Q = .ok ds) :
    ds = (List.range prm.p).map (digitOf n prm Q) := by
  obtain ⟨qc, hqc, h⟩ := P.bind_eq_ok.1 h
  have hq : qcOf n prm Q = qc := by rw [qcOf, hqc]
  exact P.mapM_inv (fun i c hc => by rw [coef_inv hc, digitOf, hq]) h

theorem digitOf_eq {n : Nat} {prm : LmotsParam} (hg : OtsRowGood n prm = true) (Q : Bytes) (hl : Q.length = n)
    {i : Nat} (hi : i < prm.p) :
    digitOf n prm Q i = rfcCoef (Q ++ Bytes.u16be (cksm n prm.w prm.ls Q)) i prm.w := by
  rw [digitOf, qcOf, append_checksum_eq hg Q hl, Digits.coefVal_eq_rfcCoef (ots_good_props hg).w_mem (digit_index_u16 hg hi)]

theorem digits_eq {n : Nat} {prm : LmotsParam} (hg : OtsRowGood n prm = true) (Q : Bytes) (hl : Q.length = n) :
    digits n prm Q = .ok ((List.range prm.p).map (digitOf n prm Q)) :=
  have h := digits_eq_digitVec hg Q hl
  h.trans (congrArg Except.ok (digits_inv h))

def msgDigest (H : HashFn) (I qb C msg : Bytes) : Bytes := H.h (I ++ qb ++ D_MESG ++ C ++ msg)

def sigChains (H : HashFn) (I qb seed : Bytes) (prm : LmotsParam) (C msg : Bytes) : List Bytes :=
  (List.range prm.p).map fun i =>
    chain H I qb i ((lmotsPrivateKey H I qb seed prm).getD i []) 0 (digitOf H.n prm (msgDigest H I qb C msg) i)

theorem sigChains_length (H : HashFn) (I qb seed : Bytes) (prm : LmotsParam) (C msg : Bytes) :
    (sigChains H I qb seed prm C msg).length = prm.p := by simp [sigChains]

theorem sigChains_mem_length (H : HashFn) (I qb seed : Bytes) (prm : LmotsParam) (C msg : Bytes) :
    ∀ y ∈ sigChains H I qb seed prm C msg, y.length = H.n := by
  intro y hy
  simp only [sigChains, List.mem_map, List.mem_range] at hy
  obtain ⟨i, hi, rfl⟩ := hy
  exact chainFrom_length H I qb i _ _ _ (by rw [lmotsPrivateKey_getD H I qb seed prm hi]; exact H.len_h _)

theorem sigChains_flatten_length (H : HashFn) (I qb seed : Bytes) (prm : LmotsParam) (C msg : Bytes) :
    (sigChains H I qb seed prm C msg).flatten.length = H.n * prm.p := by
  rw [Bytes.flatten_length_of H.n _ (sigChains_mem_length H I qb seed prm C msg), sigChains_length]

def lmotsSigBytes (H : HashFn) (I qb seed : Bytes) (prm : LmotsParam) (C msg : Bytes) : Bytes :=
  Bytes.u32be prm.typeId ++ C ++ (sigChains H I qb seed prm C msg).flatten

theorem lmotsSigBytes_length (H : HashFn) (I qb seed : Bytes) (prm : LmotsParam) (C msg : Bytes) (hC : C.length = H.n) :
    (lmotsSigBytes H I qb seed prm C msg).length = 4 + H.n * (1 + prm.p) := by
  simp only [lmotsSigBytes, List.length_append, Bytes.u32be_length, hC, sigChains_flatten_length]
  rw [Nat.mul_add, Nat.mul_one]; omega

theorem sigChains_of_digits (H : HashFn) (I qb seed : Bytes) (prm : LmotsParam) (C msg : Bytes) :
    ((List.range prm.p).map fun i => chain H I qb i ((lmotsPrivateKey H I qb seed prm).getD i []) 0
        (((List.range prm.p).map (digitOf H.n prm (msgDigest H I qb C msg))).getD i 0))
      = sigChains H I qb seed prm C msg := by
  apply List.map_congr_left
  intro i hi
  have hd : ((List.range prm.p).map (digitOf H.n prm (msgDigest H I qb C msg))).getD i 0
      = digitOf H.n prm (msgDigest H I qb C msg) i := by
    simp [List.getD_eq_getElem?_getD, List.mem_range.1 hi]
  rw [hd]

theorem lmotsSign_eq (H : HashFn) (I qb seed : Bytes) (prm : LmotsParam) (C msg : Bytes)
    (hg : OtsRowGood H.n prm = true) (hC : C.length = H.n) :
    lmotsSign H I qb seed prm C msg = .ok (lmotsSigBytes H I qb seed prm C msg) := by
  unfold lmotsSign
  dsimp only
  rw [digits_eq hg _ (H.len_h _), P.ok_bind, hC, beq_self_eq_true, P.require_true, P.ok_bind]
  exact congrArg (fun ys => (Except.ok (Bytes.u32be prm.typeId ++ C ++ List.flatten ys) : P Bytes))
    (sigChains_of_digits H I qb seed prm C msg)

theorem lmotsSign_inv {H : HashFn} {I qb seed : Bytes} {prm : LmotsParam} {C msg o : Bytes}
    (h : lmotsSign H I qb seed prm C msg = .ok o) :
    C.length = H.n ∧ o = lmotsSigBytes H I qb seed prm C msg := by
  obtain ⟨ds, hds, h⟩ := P.bind_eq_ok.1 h
  obtain ⟨hC, h⟩ := P.require_bind_eq_ok.1 h
  rw [digits_inv hds] at h
  refine ⟨by simpa using hC, ?_⟩
  rw [← P.pure_eq_ok.1 h]
  exact congrArg (fun ys => Bytes.u32be prm.typeId ++ C ++ List.flatten ys)
    (sigChains_of_digits H I qb seed prm C msg)

def lmotsSigParsed (H : HashFn) (I qb seed : Bytes) (prm : LmotsParam) (C msg : Bytes) : InMemLmotsSig :=
  ⟨C, (sigChains H I qb seed prm C msg).flatten, prm⟩

theorem lmotsSig_parse (H : HashFn) (I qb seed : Bytes) (prm : LmotsParam) (C msg : Bytes)
    (ht : Params.lmotsGetFromType H.n prm.typeId = some prm) (hC : C.length = H.n) :
    InMemLmotsSig.parse H.n (lmotsSigBytes H I qb seed prm C msg) = some (lmotsSigParsed H I qb seed prm C msg) := by
  have hlt : prm.typeId < 2 ^ 32 := by have := (ots_row_props (isOtsRow_of_getFromType ht)).typeId_lt; omega
  have hcl := sigChains_flatten_length H I qb seed prm C msg
  -- the three fields, each by `slice_of_eq` with what stands before and after it
  have s1 : Bytes.slice (lmotsSigBytes H I qb seed prm C msg) 0 4 = Bytes.u32be prm.typeId :=
    slice_of_eq (pre := []) (post := C ++ (sigChains H I qb seed prm C msg).flatten)
      (by simp only [lmotsSigBytes, List.nil_append, List.append_assoc]) rfl (Bytes.u32be_length _).symm
  have s2 : Bytes.slice (lmotsSigBytes H I qb seed prm C msg) 4 H.n = C :=
    Bytes.slice_mid (pre := Bytes.u32be prm.typeId) (Bytes.u32be_length _).symm hC.symm
  have s3 : Bytes.slice (lmotsSigBytes H I qb seed prm C msg) (4 + H.n) (H.n * prm.p)
      = (sigChains H I qb seed prm C msg).flatten :=
    slice_of_eq (pre := Bytes.u32be prm.typeId ++ C) (post := []) (by rw [List.append_nil]; rfl)
      (by rw [List.length_append, Bytes.u32be_length, hC]) hcl.symm
  refine Refine.lmots_parse_iff.mpr ⟨prm, by rw [s1, Bytes.toNat_u32be_of_lt hlt]; exact ht, ?_, by rw [s2, s3]; rfl⟩
  rw [lmotsSigBytes_length H I qb seed prm C msg hC, Nat.mul_add, Nat.mul_one, Nat.add_assoc]
  exact Nat.le_refl _

theorem lmotsCandidate_released (H : HashFn) (I : Bytes) (q : Nat) (seed : Bytes) (prm : LmotsParam) (C msg : Bytes)
    (hg : OtsRowGood H.n prm = true) :
    lmotsCandidate H (lmotsSigParsed H I (Bytes.u32be q) seed prm C msg) I q msg
      = .ok (lmotsPublicKey H I (Bytes.u32be q) prm (lmotsPrivateKey H I (Bytes.u32be q) seed prm)) := by
  rw [Refine.lmotsCandidate_eq H (lmotsSigParsed H I (Bytes.u32be q) seed prm C msg) I q msg hg
    (sigChains_flatten_length H I _ seed prm C msg)]
  have hQ := H.len_h (I ++ Bytes.u32be q ++ D_MESG ++ C ++ msg)
  -- the verifier's chain from digit `d_i` to the end, started at the signer's chain value, is the whole chain
  have key : ∀ i ∈ List.range prm.p,
      Spec.chainRfc H I q i (rfcCoef (H.h (I ++ Bytes.u32be q ++ D_MESG ++ C ++ msg) ++
          Bytes.u16be (cksm H.n prm.w prm.ls (H.h (I ++ Bytes.u32be q ++ D_MESG ++ C ++ msg)))) i prm.w) (2 ^ prm.w - 1)
        (Bytes.slice (sigChains H I (Bytes.u32be q) seed prm C msg).flatten (H.n * i) H.n)
      = chain H I (Bytes.u32be q) i ((lmotsPrivateKey H I (Bytes.u32be q) seed prm).getD i []) 0 (2 ^ prm.w - 1) := by
    intro i hi
    have hi := List.mem_range.mp hi
    rw [Bytes.slice_flatten H.n _ i (by rw [sigChains_length]; exact hi) (sigChains_mem_length H I _ seed prm C msg),
      ← Refine.chain_eq, ← digitOf_eq hg _ hQ hi]
    simp only [sigChains, List.getElem_map, List.getElem_range]
    exact chain_compose _ _ _ _ _ _ _ (digitOf_le _ _ _ _)
  simp only [lmotsSigParsed, lmotsPublicKey]
  rw [List.map_congr_left key]

theorem lmotsSign_complete {H : HashFn} {I : Bytes} {q : Nat} {seed : Bytes} {prm : LmotsParam} {C msg sigBytes : Bytes}
    (ht : Params.lmotsGetFromType H.n prm.typeId = some prm)
    (hs : lmotsSign H I (Bytes.u32be q) seed prm C msg = .ok sigBytes) :
    InMemLmotsSig.parse H.n sigBytes = some (lmotsSigParsed H I (Bytes.u32be q) seed prm C msg) ∧
      lmotsCandidate H (lmotsSigParsed H I (Bytes.u32be q) seed prm C msg) I q msg
        = .ok (lmotsPublicKey H I (Bytes.u32be q) prm (lmotsPrivateKey H I (Bytes.u32be q) seed prm)) := by
  obtain ⟨hC, rfl⟩ := lmotsSign_inv hs
  exact ⟨lmotsSig_parse H I _ seed prm C msg ht hC, lmotsCandidate_released H I q seed prm C msg (otsRowGood_of_getFromType ht)⟩

theorem lmots_complete (H : HashFn) (I : Bytes) (q : Nat) (seed : Bytes) (prm : LmotsParam) (C msg sigBytes : Bytes)
    (hg : OtsRowGood H.n prm = true) (ht : Params.lmotsGetFromType H.n prm.typeId = some prm) (hC : C.length = H.n)
    (hs : lmotsSign H I (Bytes.u32be q) seed prm C msg = .ok sigBytes) :
    ∃ s, InMemLmotsSig.parse H.n sigBytes = some s ∧ s.param = prm ∧
      lmotsCandidate H s I q msg
        = .ok (lmotsPublicKey H I (Bytes.u32be q) prm (lmotsPrivateKey H I (Bytes.u32be q) seed prm)) :=
  have ⟨hp, hc⟩ := lmotsSign_complete ht hs
  ⟨_, hp, rfl, hc⟩

end Lemmas.Complete
