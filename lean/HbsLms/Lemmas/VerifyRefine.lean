/-
`Impl.hssVerify` with its parsers computes section 6.3 of `Spec.Rfc8554` on every input (C02): the loop over the signed
public keys is matched step by step, after the LMS parsers have been shown to depend on a prefix of their input only.
That the verifier returns on every input (C06) is `hss_refine` read with `∃`. The last part reads acceptance backwards,
for the rejection corollaries of C02.
-/
import HbsLms.Impl.Hss
import HbsLms.Lemmas.LmsRefine

namespace Lemmas

open Impl Generated Spec.AppendixB

namespace Refine

/-! Prefix stability: the length of an LMS signature is fixed by its two type codes, and what the parsers return depends
on that many bytes only. This is what lets the model's parser, which runs on everything that is left, meet the
specification's, which cuts the signature out first. -/

theorem lmsSigLen_iff {n : Nat} {d : Bytes} {sl : Nat} :
    Spec.lmsSigLen n (libTables n) d = some sl ↔ ∃ op lp, LmsHead n d op lp ∧ sl = lmsLen n op lp := by
  constructor
  · intro h
    obtain ⟨op, lp, hop, hl, hlp, rfl⟩ := lmsSigLen_inv h
    rw [u32_eq (by omega)] at hop hlp
    exact ⟨op, lp, ⟨hop, hlp, hl⟩, rfl⟩
  · rintro ⟨op, lp, ⟨hop, hlp, hl⟩, rfl⟩
    have hop' : (libTables n).ots (u32 d 4) = some op := by rw [u32_eq (by omega)]; exact hop
    have hlp' : (libTables n).lms (u32 d (4 + (4 + n * (op.p + 1)))) = some lp := by rw [u32_eq (by omega)]; exact hlp
    simp only [Spec.lmsSigLen, hop', hlp']
    rw [if_neg (by omega), if_neg (by omega)]; rfl

theorem lms_parse_sigLen {n : Nat} {d : Bytes} {s : InMemLmsSig} (hs : InMemLmsSig.parse n d = some s) :
    Spec.lmsSigLen n (libTables n) d = some (s.len n) ∧ s.len n ≤ d.length := by
  obtain ⟨op, lp, hh, hl, _, rfl⟩ := lms_parse_iff.mp hs
  rw [lmsOf_len]
  exact ⟨lmsSigLen_iff.mpr ⟨op, lp, hh, rfl⟩, hl⟩

theorem LmsHead.of_take_eq {n d d' op lp} (h : LmsHead n d op lp) {L : Nat} (hL : 8 + (4 + n * (op.p + 1)) ≤ L)
    (he : d'.take L = d.take L) : LmsHead n d' op lp := by
  have hlen := congrArg List.length he
  rw [List.length_take, List.length_take] at hlen
  have hl := h.len
  exact ⟨by rw [Bytes.slice_of_take_eq he (by omega)]; exact h.ots,
    by rw [Bytes.slice_of_take_eq he (by omega)]; exact h.lms, by omega⟩

theorem lmsSigLen_append {n : Nat} {d : Bytes} {sl : Nat} (e : Bytes)
    (h : Spec.lmsSigLen n (libTables n) d = some sl) : Spec.lmsSigLen n (libTables n) (d ++ e) = some sl := by
  obtain ⟨op, lp, hh, rfl⟩ := lmsSigLen_iff.mp h
  exact lmsSigLen_iff.mpr ⟨op, lp, hh.of_take_eq (Nat.le_refl _) (List.take_append_of_le_length hh.len), rfl⟩

theorem lms_parse_of_take_eq {n : Nat} {d d' : Bytes} {s : InMemLmsSig} (h : InMemLmsSig.parse n d = some s)
    (he : d'.take (s.len n) = d.take (s.len n)) : InMemLmsSig.parse n d' = some s := by
  obtain ⟨op, lp, hh, hl, hq, rfl⟩ := lms_parse_iff.mp h
  rw [lmsOf_len] at he
  have hlen := congrArg List.length he
  rw [List.length_take, List.length_take] at hlen
  have hmm : n * (op.p + 1) = n * op.p + n := Nat.mul_succ _ _
  have hL : lmsLen n op lp = 8 + (4 + n * (op.p + 1)) + n * lp.h := rfl
  refine lms_parse_iff.mpr ⟨op, lp, hh.of_take_eq (by omega) he, by omega,
    by rw [Bytes.slice_of_take_eq he (by omega)]; exact hq, ?_⟩
  simp only [lmsOf]
  rw [Bytes.slice_of_take_eq he (by omega), Bytes.slice_of_take_eq he (by omega), Bytes.slice_of_take_eq he (by omega),
    Bytes.slice_of_take_eq he (by omega)]

theorem lms_parse_append {n : Nat} {d : Bytes} {s : InMemLmsSig} (h : InMemLmsSig.parse n d = some s) (e : Bytes) :
    InMemLmsSig.parse n (d ++ e) = some s :=
  lms_parse_of_take_eq h (List.take_append_of_le_length (lms_parse_sigLen h).2)

theorem lms_parse_take {n : Nat} {d : Bytes} {s : InMemLmsSig} (h : InMemLmsSig.parse n d = some s) {k : Nat}
    (hk : s.len n ≤ k) : InMemLmsSig.parse n (d.take k) = some s :=
  lms_parse_of_take_eq h (by rw [List.take_take, Nat.min_eq_left hk])

theorem lms_parse_take_none {n : Nat} {d : Bytes} (h : InMemLmsSig.parse n d = none) (k : Nat) :
    InMemLmsSig.parse n (d.take k) = none := by
  cases ht : InMemLmsSig.parse n (d.take k) with
  | none => rfl
  | some s =>
    have := lms_parse_append ht (d.drop k)
    rw [List.take_append_drop, h] at this; cases this

theorem pk_parse_take {n : Nat} {kb : Bytes} (h : 24 + n ≤ kb.length) :
    InMemLmsPk.parse n (kb.take (24 + n)) = InMemLmsPk.parse n kb := by
  have hl : (kb.take (24 + n)).length = 24 + n := by rw [List.length_take]; omega
  refine Option.ext fun key => ?_
  rw [pk_parse_iff, pk_parse_iff, hl, Bytes.slice_take _ (by omega), Bytes.slice_take _ (by omega),
    Bytes.slice_take _ (by omega), Bytes.slice_take _ (by omega), List.take_take, Nat.min_self]
  simp only [Nat.le_refl, h, true_and]

/-- `key.complete` models `complete_data` of `InMemoryLmsPublicKey` -/
theorem pk_parse_complete {n : Nat} {kb : Bytes} {key : InMemLmsPk} (h : InMemLmsPk.parse n kb = some key) :
    key.complete = kb.take (24 + n) ∧ 24 + n ≤ kb.length ∧ InMemLmsPk.parse n key.complete = some key ∧
      key.complete.length = 24 + n := by
  obtain ⟨_, _, hl, _, _, hkey⟩ := pk_parse_iff.mp h
  have hc : key.complete = kb.take (24 + n) := by rw [hkey]
  exact ⟨hc, hl, by rw [hc, pk_parse_take hl]; exact h, by rw [hc, List.length_take]; omega⟩

/-- what `hssVerify` does after the level count (`hssVerify_eq`) -/
def implTail (H : HashFn) (msg : Bytes) (k : Nat) (rest : Bytes) (key : InMemLmsPk) : P Bool :=
  match parseSignedPks H.n k rest [] with
  | none => pure false
  | some (spks, r) =>
    match InMemLmsSig.parse H.n r with
    | none => pure false
    | some sg =>
      if r.length != sg.len H.n then pure false else do
        match ← verifyChain H spks key with
        | none => pure false
        | some key' => lmsVerify H sg key' msg

/-- what `Spec.hssValid` does after the level count (`hssValid_eq`) -/
def specTail (H : HashFn) (msg : Bytes) (k : Nat) (rest kb : Bytes) : Bool :=
  match Spec.splitSigned H.n (libTables H.n) k rest with
  | none => false
  | some (l, last) => Spec.chainValid H (libTables H.n) l kb last msg

theorem parseSignedPks_acc (n : Nat) : ∀ (k : Nat) (rest : Bytes) (acc : List (InMemLmsSig × InMemLmsPk)),
    parseSignedPks n k rest acc = (parseSignedPks n k rest []).map (fun x => (acc ++ x.1, x.2)) := by
  intro k
  induction k with
  | zero => intro rest acc; simp [parseSignedPks]
  | succ k ih =>
    intro rest acc
    simp only [parseSignedPks]
    cases parseSignedPk n rest with
    | none => rfl
    | some x =>
      obtain ⟨s, p, l⟩ := x
      simp only [List.nil_append]
      rw [ih (rest.drop l) (acc ++ [(s, p)]), ih (rest.drop l) [(s, p)]]
      cases parseSignedPks n k (rest.drop l) [] with
      | none => rfl
      | some y => simp

theorem parseSignedPks_succ (n k : Nat) (rest : Bytes) :
    parseSignedPks n (k + 1) rest [] =
      match parseSignedPk n rest with
      | none => none
      | some (s, p, l) => (parseSignedPks n k (rest.drop l) []).map (fun x => ((s, p) :: x.1, x.2)) := by
  simp only [parseSignedPks]
  cases parseSignedPk n rest with
  | none => rfl
  | some x =>
    obtain ⟨s, p, l⟩ := x
    simp only [List.nil_append]
    rw [parseSignedPks_acc]
    rfl

theorem specTail_zero (H : HashFn) (msg rest kb : Bytes) :
    specTail H msg 0 rest kb = Spec.lmsValid H (libTables H.n) msg rest kb := rfl

theorem specTail_succ (H : HashFn) (msg : Bytes) (k : Nat) (rest kb : Bytes) :
    specTail H msg (k + 1) rest kb =
      match Spec.lmsSigLen H.n (libTables H.n) rest with
      | none => false
      | some sl =>
        if rest.length < sl + (24 + H.n) then false else
        Spec.lmsValid H (libTables H.n) (Spec.bytesAt rest sl (24 + H.n)) (Spec.bytesAt rest 0 sl) kb &&
          specTail H msg k (rest.drop (sl + (24 + H.n))) (Spec.bytesAt rest sl (24 + H.n)) := by
  unfold specTail
  simp only [Spec.splitSigned]
  cases Spec.lmsSigLen H.n (libTables H.n) rest with
  | none => rfl
  | some sl =>
    simp only []
    by_cases hc : rest.length < sl + (24 + H.n)
    · simp only [hc, if_true]
    · simp only [hc, if_false]
      cases Spec.splitSigned H.n (libTables H.n) k (rest.drop (sl + (24 + H.n))) with
      | none => simp
      | some x => obtain ⟨l, r⟩ := x; simp [Spec.chainValid]

theorem specTail_bad_key (H : HashFn) (msg : Bytes) (k : Nat) (rest kb : Bytes)
    (h : InMemLmsPk.parse H.n kb = none ∨ kb.length ≠ 24 + H.n) : specTail H msg k rest kb = false := by
  cases k with
  | zero => rw [specTail_zero]; exact lmsValid_false_of_key H _ _ _ h
  | succ k =>
    rw [specTail_succ]
    cases Spec.lmsSigLen H.n (libTables H.n) rest with
    | none => rfl
    | some sl =>
      simp only []
      split
      · rfl
      · rw [lmsValid_false_of_key H _ _ _ h]; rfl

theorem implTail_zero (H : HashFn) (msg rest : Bytes) (key : InMemLmsPk) :
    implTail H msg 0 rest key =
      match InMemLmsSig.parse H.n rest with
      | none => pure false
      | some sg => if rest.length != sg.len H.n then pure false else lmsVerify H sg key msg := by
  unfold implTail
  simp only [parseSignedPks]
  cases InMemLmsSig.parse H.n rest with
  | none => rfl
  | some sg =>
    simp only []
    split
    · rfl
    · simp only [verifyChain, P.pure_eq, P.ok_bind]

theorem implTail_succ_some (H : HashFn) (msg : Bytes) (k : Nat) {rest : Bytes} {key : InMemLmsPk}
    {s : InMemLmsSig} {p : InMemLmsPk} {l : Nat} {b : Bool}
    (h : parseSignedPk H.n rest = some (s, p, l)) (hb : lmsVerify H s key p.complete = .ok b) :
    implTail H msg (k + 1) rest key = if b then implTail H msg k (rest.drop l) p else pure false := by
  unfold implTail
  rw [parseSignedPks_succ, h]
  simp only []
  cases parseSignedPks H.n k (rest.drop l) [] with
  | none => cases b <;> rfl
  | some x =>
    obtain ⟨spks, r⟩ := x
    simp only [Option.map_some]
    cases InMemLmsSig.parse H.n r with
    | none => cases b <;> rfl
    | some sg =>
      simp only []
      split
      · cases b <;> rfl
      · simp only [verifyChain, hb, P.ok_bind]
        cases b <;> rfl

theorem parseSignedPk_some {n : Nat} {rest : Bytes} {s : InMemLmsSig} {p : InMemLmsPk} {l : Nat}
    (h : parseSignedPk n rest = some (s, p, l)) :
    InMemLmsSig.parse n rest = some s ∧ InMemLmsPk.parse n (rest.drop (s.len n)) = some p ∧
      l = s.len n + (24 + n) := by
  simp only [parseSignedPk, Option.bind_eq_bind, Option.bind_eq_some_iff, pure, Option.some.injEq,
    Prod.mk.injEq] at h
  obtain ⟨sg, hsg, pk, hpk, h1, h2, h3⟩ := h
  subst h1; subst h2
  exact ⟨hsg, hpk, by rw [← h3, lms_public_key_length]⟩

theorem parseSignedPk_none {n : Nat} {rest : Bytes} (h : parseSignedPk n rest = none) :
    InMemLmsSig.parse n rest = none ∨
      ∃ s, InMemLmsSig.parse n rest = some s ∧ InMemLmsPk.parse n (rest.drop (s.len n)) = none := by
  cases hs : InMemLmsSig.parse n rest with
  | none => exact Or.inl rfl
  | some s =>
    refine Or.inr ⟨s, rfl, ?_⟩
    cases hp : InMemLmsPk.parse n (rest.drop (s.len n)) with
    | none => rfl
    | some p => simp [parseSignedPk, hs, hp] at h

/-- By induction on the number of levels. Both sides take everything apart first and verify afterwards; peeling one
signed public key off both (`implTail_succ_some`, `specTail_succ`) turns that into one step of parsing and verifying, so
that a link the model cannot parse meets the link the specification cannot verify. -/
theorem hss_tail_refine (H : HashFn) (msg : Bytes) : ∀ (k : Nat) (rest kb : Bytes) (key : InMemLmsPk),
    InMemLmsPk.parse H.n kb = some key → kb.length = 24 + H.n →
    implTail H msg k rest key = .ok (specTail H msg k rest kb) := by
  intro k
  induction k with
  | zero =>
    intro rest kb key hk hkl
    -- with the key parsed, the model's last step is the left-hand side of `lms_refine`
    rw [implTail_zero, specTail_zero, ← lms_refine, hk]
    cases InMemLmsSig.parse H.n rest with
    | none => rfl
    | some sg => by_cases hl : rest.length = sg.len H.n <;> simp [hl, hkl]
  | succ k ih =>
    intro rest kb key hk hkl
    rw [specTail_succ]
    cases hsp : parseSignedPk H.n rest with
    | none =>
      rw [implTail, parseSignedPks_succ, hsp]
      simp only [P.pure_eq]
      congr 1
      cases hsl : Spec.lmsSigLen H.n (libTables H.n) rest with
      | none => rfl
      | some sl =>
        simp only []
        split
        · rfl
        · rename_i hlen
          rcases parseSignedPk_none hsp with hs | ⟨s, hs, hp⟩
          · have := lms_parse_take_none hs sl
            have hb : Spec.bytesAt rest 0 sl = rest.take sl := Bytes.slice_zero rest sl
            rw [hb, lmsValid_false_of_sig H _ (rest.take sl) kb (by intro s h; rw [this] at h; simp at h)]
            rfl
          · obtain ⟨h1, _⟩ := lms_parse_sigLen hs
            rw [hsl] at h1
            have hsl' : sl = s.len H.n := Option.some.inj h1
            have hpub : InMemLmsPk.parse H.n (Spec.bytesAt rest sl (24 + H.n)) = none := by
              show InMemLmsPk.parse H.n ((rest.drop sl).take (24 + H.n)) = none
              rw [pk_parse_take (by rw [List.length_drop]; omega), hsl']; exact hp
            rw [specTail_bad_key H msg k _ _ (Or.inl hpub), Bool.and_false]
    | some x =>
      obtain ⟨s, p, l⟩ := x
      obtain ⟨hs, hp, hl⟩ := parseSignedPk_some hsp
      obtain ⟨hsl, hle⟩ := lms_parse_sigLen hs
      obtain ⟨hcomp, hplen, hpubparse, hpublen⟩ := pk_parse_complete hp
      rw [List.length_drop] at hplen
      have hsig : Spec.bytesAt rest 0 (s.len H.n) = rest.take (s.len H.n) := Bytes.slice_zero rest _
      have hpub : Spec.bytesAt rest (s.len H.n) (24 + H.n) = p.complete := by rw [hcomp]; rfl
      have hv : lmsVerify H s key p.complete =
          .ok (Spec.lmsValid H (libTables H.n) p.complete (rest.take (s.len H.n)) kb) :=
        lmsVerify_eq H p.complete (rest.take (s.len H.n)) kb s key
          (lms_parse_take hs (Nat.le_refl _)) (by rw [List.length_take]; omega) hk hkl
      rw [implTail_succ_some H msg k hsp hv, hsl]
      simp only []
      rw [if_neg (show ¬ rest.length < s.len H.n + (24 + H.n) by omega), hsig, hpub, hl]
      cases Spec.lmsValid H (libTables H.n) p.complete (rest.take (s.len H.n)) kb with
      | false => rfl
      | true =>
        simp only [if_true, Bool.true_and]
        exact ih _ _ _ hpubparse hpublen

theorem hssValid_eq (H : HashFn) (maxLevels : Nat) (msg sig pk : Bytes) :
    Spec.hssValid H (libTables H.n) maxLevels msg sig pk =
      (if pk.length < 4 ∨ sig.length < 4 then false else
       if u32 sig 0 + 1 ≠ u32 pk 0 then false else
       if u32 sig 0 > maxLevels - 1 then false else
       specTail H msg (u32 sig 0) (sig.drop 4) (pk.drop 4)) := rfl

theorem parseHssPk_eq (n : Nat) (pk : Bytes) :
    parseHssPk n pk =
      if 4 ≤ pk.length then
        match InMemLmsPk.parse n (pk.drop 4) with
        | none => none
        | some key => if pk.length - 4 = 24 + n then some (Bytes.toNat (Bytes.slice pk 0 4), key) else none
      else none := by
  unfold parseHssPk readAt
  by_cases h4 : 4 ≤ pk.length
  · simp only [h4, Nat.zero_add, if_true, Option.bind_eq_bind, Option.bind_some]
    cases hk : InMemLmsPk.parse n (pk.drop 4) with
    | none => rfl
    | some key =>
      obtain ⟨_, _, _, hcl⟩ := pk_parse_complete hk
      simp only [Option.bind_some, hcl]
      by_cases he : pk.length - 4 = 24 + n
      · simp [he]
      · simp [he]
  · simp [h4]

/-- `hss_verify` in one equation: the two guards of `InMemoryHssSignature::new` that precede all parsing, the public
key, the level comparison of `hss::verify::verify`, and `implTail` for everything else -/
theorem hssVerify_eq (H : HashFn) (cfg : Config) (msg sig pk : Bytes) :
    hssVerify H cfg msg sig pk =
      if sig.length < 4 ∨ Bytes.toNat (Bytes.slice sig 0 4) > cfg.maxLevels - 1 then pure false else
      match parseHssPk H.n pk with
      | none => pure false
      | some (L, key) =>
        if Bytes.toNat (Bytes.slice sig 0 4) + 1 = L then
          implTail H msg (Bytes.toNat (Bytes.slice sig 0 4)) (sig.drop 4) key
        else pure false := by
  unfold hssVerify InMemHssSig.parse implTail
  by_cases h4 : sig.length < 4
  · rw [if_pos (Or.inl h4), show readAt sig 4 0 = none from if_neg (by omega)]
  rw [readAt_of_le (show 0 + 4 ≤ sig.length by omega)]
  by_cases hlv : Bytes.toNat (Bytes.slice sig 0 4) > cfg.maxLevels - 1
  · rw [if_pos (Or.inr hlv)]; simp only [hlv, if_true]
  rw [if_neg (by omega)]
  simp only [hlv, if_false]
  -- from here on both sides fail together or reach `verifyChain`
  cases parseSignedPks H.n (Bytes.toNat (Bytes.slice sig 0 4)) (sig.drop 4) [] with
  | none => cases parseHssPk H.n pk with
    | none => rfl
    | some x => simp only []; split <;> rfl
  | some x =>
    obtain ⟨spks, rest⟩ := x
    simp only []
    cases InMemLmsSig.parse H.n rest with
    | none => cases parseHssPk H.n pk with
      | none => rfl
      | some x => simp only []; split <;> rfl
    | some sg =>
      simp only []
      cases parseHssPk H.n pk with
      | none => split <;> rfl
      | some x =>
        obtain ⟨L, key⟩ := x
        simp only [hssVerifyParsed, bne_iff_ne, ne_eq, ite_not]
        by_cases hl : rest.length = sg.len H.n
        · by_cases hL : Bytes.toNat (Bytes.slice sig 0 4) + 1 = L
          · simp only [hl, hL, if_true]; rfl
          · simp only [hl, hL, if_true, if_false]
        · simp only [hl, if_false]; split <;> rfl

/-- C02: `hss_verify` is the verification algorithm of RFC 8554 section 6.3, on all byte strings -/
theorem hss_refine (H : HashFn) (cfg : Config) (msg sig pk : Bytes) :
    hssVerify H cfg msg sig pk = .ok (Spec.hssValid H (libTables H.n) cfg.maxLevels msg sig pk) := by
  rw [hssVerify_eq, hssValid_eq]
  by_cases hs4 : sig.length < 4
  · rw [if_pos (Or.inl hs4), if_pos (Or.inr hs4)]; rfl
  by_cases hp4 : pk.length < 4
  · have hn : parseHssPk H.n pk = none := by rw [parseHssPk_eq, if_neg (by omega)]
    rw [if_pos (Or.inl hp4), hn]
    simp only [ite_self]; rfl
  rw [if_neg (show ¬ (pk.length < 4 ∨ sig.length < 4) by omega), u32_eq (s := sig) (a := 0) (by omega),
    u32_eq (s := pk) (a := 0) (by omega)]
  by_cases hlv : Bytes.toNat (Bytes.slice sig 0 4) > cfg.maxLevels - 1
  · rw [if_pos (Or.inr hlv), if_pos hlv, ite_self]; rfl
  rw [if_neg (show ¬ (sig.length < 4 ∨ _) by omega), if_neg hlv, parseHssPk_eq, if_pos (by omega)]
  have hbad : (InMemLmsPk.parse H.n (pk.drop 4) = none ∨ (pk.drop 4).length ≠ 24 + H.n) →
      (pure false : P Bool) = .ok (if Bytes.toNat (Bytes.slice sig 0 4) + 1 ≠ Bytes.toNat (Bytes.slice pk 0 4) then false
        else specTail H msg (Bytes.toNat (Bytes.slice sig 0 4)) (sig.drop 4) (pk.drop 4)) := fun h => by
    rw [specTail_bad_key H msg _ _ _ h, ite_self]; rfl
  cases hk : InMemLmsPk.parse H.n (pk.drop 4) with
  | none => exact hbad (Or.inl hk)
  | some key =>
    simp only []
    by_cases hl : pk.length - 4 = 24 + H.n
    · rw [if_pos hl]
      simp only []
      by_cases hL : Bytes.toNat (Bytes.slice sig 0 4) + 1 = Bytes.toNat (Bytes.slice pk 0 4)
      · rw [if_pos hL, if_neg (fun h => h hL)]
        exact hss_tail_refine H msg _ _ _ key hk (by rw [List.length_drop]; exact hl)
      · rw [if_neg hL, if_pos hL]; rfl
    · rw [if_neg hl]
      exact hbad (Or.inr (by rw [List.length_drop]; exact hl))

/-- the public key under which the last LMS signature is verified -/
def lastKey : List (Bytes × Bytes) → Bytes → Bytes
  | [], kb => kb
  | (_, pb) :: l, _ => lastKey l pb

theorem chainValid_last (H : HashFn) (T : Spec.Tables) (msg last : Bytes) : ∀ (l : List (Bytes × Bytes)) (kb : Bytes),
    Spec.chainValid H T l kb last msg = true → Spec.lmsValid H T msg last (lastKey l kb) = true := by
  intro l
  induction l with
  | nil => intro kb h; exact h
  | cons x l ih =>
    intro kb h
    obtain ⟨sg, pb⟩ := x
    simp only [Spec.chainValid, Bool.and_eq_true] at h
    exact ih pb h.2

theorem chainValid_head {H : HashFn} {T : Spec.Tables} {l : List (Bytes × Bytes)} {kb last msg : Bytes}
    (h : Spec.chainValid H T l kb last msg = true) : ∃ m d, Spec.lmsValid H T m d kb = true := by
  cases l with
  | nil => exact ⟨msg, last, h⟩
  | cons x l =>
    obtain ⟨sg, pb⟩ := x
    simp only [Spec.chainValid, Bool.and_eq_true] at h
    exact ⟨pb, sg, h.1⟩

structure HssAccepted (H : HashFn) (T : Spec.Tables) (maxLevels : Nat) (msg sig pk : Bytes) : Prop where
  pkLen : 4 ≤ pk.length
  sigLen : 4 ≤ sig.length
  levels : u32 sig 0 + 1 = u32 pk 0
  maxLevels : u32 sig 0 ≤ maxLevels - 1
  split : ∃ l last, Spec.splitSigned H.n T (u32 sig 0) (sig.drop 4) = some (l, last) ∧
    Spec.chainValid H T l (pk.drop 4) last msg = true ∧ Spec.lmsValid H T msg last (lastKey l (pk.drop 4)) = true

theorem hssValid_inv {H : HashFn} {T : Spec.Tables} {maxLevels : Nat} {msg sig pk : Bytes}
    (h : Spec.hssValid H T maxLevels msg sig pk = true) : HssAccepted H T maxLevels msg sig pk := by
  simp only [Spec.hssValid] at h
  -- the lengths, `Nspk + 1 = L`, the build limit
  rw [ite_false_eq_true, ite_false_eq_true, ite_false_eq_true] at h
  obtain ⟨c0, c1, c2, h⟩ := h
  cases hsp : Spec.splitSigned H.n T (u32 sig 0) (sig.drop 4) with
  | none => rw [hsp] at h; cases h
  | some x =>
    obtain ⟨l, last⟩ := x
    rw [hsp] at h
    exact ⟨by omega, by omega, Decidable.not_not.mp c1, Nat.le_of_not_lt c2, l, last, hsp, h,
      chainValid_last H T msg last l _ h⟩

theorem hssValid_key_verifies {H : HashFn} {T : Spec.Tables} {maxLevels : Nat} {msg sig pk : Bytes}
    (h : Spec.hssValid H T maxLevels msg sig pk = true) :
    4 ≤ pk.length ∧ ∃ m d, Spec.lmsValid H T m d (pk.drop 4) = true := by
  obtain ⟨_, _, _, hcv, _⟩ := (hssValid_inv h).split
  exact ⟨(hssValid_inv h).pkLen, chainValid_head hcv⟩

/-- both type codes of the key are in the tables: Algorithm 6 looks up the one, Algorithm 6a the other -/
theorem hssValid_pk {H : HashFn} {T : Spec.Tables} {maxLevels : Nat} {msg sig pk : Bytes}
    (h : Spec.hssValid H T maxLevels msg sig pk = true) :
    pk.length = 28 + H.n ∧ (∃ lp, T.lms (u32 pk 4) = some lp) ∧ ∃ op, T.ots (u32 pk 8) = some op := by
  obtain ⟨h4, _, _, hv⟩ := hssValid_key_verifies h
  obtain ⟨hl, hlp, _, hTc⟩ := lmsValid_inv hv
  obtain ⟨op, _, h1, hop, _⟩ := lmsRootCandidate_inv hTc
  rw [h1] at hop
  rw [List.length_drop] at hl
  simp only [u32, bytesAt_eq, Bytes.slice_drop] at hlp hop
  exact ⟨by omega, hlp, op, hop⟩

theorem hssValid_pk_len (H : HashFn) (maxLevels : Nat) (msg sig pk : Bytes)
    (h : Spec.hssValid H (libTables H.n) maxLevels msg sig pk = true) :
    pk.length = 28 + H.n ∧ (H.n = 16 ∨ H.n = 24 ∨ H.n = 32) :=
  have ⟨hl, _, _, hop⟩ := hssValid_pk h
  ⟨hl, (ots_row_props (isOtsRow_of_getFromType hop)).hashLen⟩

theorem splitSigned_append (n : Nat) (e : Bytes) : ∀ (k : Nat) (rest : Bytes) (l : List (Bytes × Bytes)) (r : Bytes),
    Spec.splitSigned n (libTables n) k rest = some (l, r) →
    Spec.splitSigned n (libTables n) k (rest ++ e) = some (l, r ++ e) := by
  intro k
  induction k with
  | zero =>
    intro rest l r h
    cases h; rfl
  | succ k ih =>
    intro rest l r h
    simp only [Spec.splitSigned] at h ⊢
    cases hsl : Spec.lmsSigLen n (libTables n) rest with
    | none => rw [hsl] at h; cases h
    | some sl =>
      rw [hsl] at h
      simp only [] at h
      rw [Option.ite_none_left_eq_some] at h
      obtain ⟨hc, h⟩ := h
      cases hin : Spec.splitSigned n (libTables n) k (rest.drop (sl + (24 + n))) with
      | none => rw [hin] at h; cases h
      | some x =>
        obtain ⟨l', r'⟩ := x
        rw [hin] at h
        cases h
        rw [lmsSigLen_append e hsl]
        simp only []
        rw [if_neg (by rw [List.length_append]; omega), List.drop_append_of_le_length (by omega), ih _ _ _ hin]
        simp only [bytesAt_eq]
        rw [Bytes.slice_append_left _ (by omega), Bytes.slice_append_left _ (by omega)]

theorem hssValid_last_len (H : HashFn) (maxLevels : Nat) (msg sig pk : Bytes)
    (h : Spec.hssValid H (libTables H.n) maxLevels msg sig pk = true) :
    ∃ l last, Spec.splitSigned H.n (libTables H.n) (u32 sig 0) (sig.drop 4) = some (l, last) ∧
      Spec.lmsSigLen H.n (libTables H.n) last = some last.length := by
  obtain ⟨l, last, hsp, _, hv⟩ := (hssValid_inv h).split
  obtain ⟨⟨s, hs, hl⟩, _⟩ := lmsValid_parses H msg last _ hv
  exact ⟨l, last, hsp, by rw [hl]; exact (lms_parse_sigLen hs).1⟩

theorem hssValid_extend (H : HashFn) (maxLevels : Nat) (msg sig pk e : Bytes)
    (h : Spec.hssValid H (libTables H.n) maxLevels msg sig pk = true) (he : e ≠ []) :
    Spec.hssValid H (libTables H.n) maxLevels msg (sig ++ e) pk = false := by
  cases h' : Spec.hssValid H (libTables H.n) maxLevels msg (sig ++ e) pk with
  | false => rfl
  | true =>
    have hs4 := (hssValid_inv h).sigLen
    obtain ⟨l, last, hsp, hlen⟩ := hssValid_last_len H maxLevels msg sig pk h
    obtain ⟨l', last', hsp', hlen'⟩ := hssValid_last_len H maxLevels msg (sig ++ e) pk h'
    have hb : u32 (sig ++ e) 0 = u32 sig 0 :=
      congrArg Spec.strTou32 (Bytes.slice_append_left (a := sig) e (s := 0) (l := 4) (by omega))
    rw [hb, List.drop_append_of_le_length (by omega), splitSigned_append H.n e _ _ _ _ hsp] at hsp'
    simp only [Option.some.injEq, Prod.mk.injEq] at hsp'
    obtain ⟨_, hlast⟩ := hsp'
    rw [← hlast, lmsSigLen_append e hlen, List.length_append] at hlen'
    simp only [Option.some.injEq] at hlen'
    have : e.length = 0 := by omega
    exact absurd (List.length_eq_zero_iff.mp this) he

end Refine

end Lemmas
