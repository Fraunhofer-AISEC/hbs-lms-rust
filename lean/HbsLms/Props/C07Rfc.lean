/-
C07, last sentence: "An independent implementation of RFC 8554 verification therefore accepts every released
signature." Completeness (C01) composed with the refinement of the verifier to `Spec.hssValid` (C02); that
specification is written from the RFC text and cross-checked against an independent Python implementation on every run.
-/
import HbsLms.Props.C01
import HbsLms.Props.C02

namespace Props.C07

open Impl Lemmas

/-- If key generation returns `(sk, vk)` and signing with `sk`'s counter set to `c` releases `sig`, then the RFC 8554
HSS verification algorithm accepts `(msg, sig, vk)`.

The specification is run with the library's type-code table `libTables H.n`. Its rows carry the Appendix B values
(w, p, ls) for 9 of the 12 (n, w) combinations (`Props.C12.table_rows_ok`); for the rows (24,W1), (16,W1), (16,W2) the
table's `ls` differs from Appendix B (known finding C12/C07), so for keys using those rows this theorem speaks about
RFC verification *with the library's shift*, and a verifier using the Appendix B shift may reject. -/
theorem rfc_verification_accepts_released_signature (H : HashFn) (cfg : Config) (ps0 : List HssParam)
    (seed msg : Bytes) (c : Nat) (cb : Bytes → Bool) (skb vk : Bytes) (a0 : Option Bytes) (r0 : Bytes)
    (o : SignOutcome) (sig : Bytes)
    (hseed : seed.length = H.n)
    (hk : hssKeygen H cfg ps0 seed none = .ok ⟨some (skb, vk), a0, r0⟩)
    (hsign : hssSign H cfg msg (Props.C01.blobWithCounter skb c) cb none = .ok o)
    (hres : o.result = some sig) :
    Spec.hssValid H (libTables H.n) cfg.maxLevels msg sig vk = true :=
  (Props.C02.verify_accepts_iff H cfg msg sig vk).mp
    (Props.C01.released_signature_verifies H cfg ps0 seed msg c cb skb vk a0 r0 o sig hseed hk hsign hres)

end Props.C07

#print axioms Props.C07.rfc_verification_accepts_released_signature
