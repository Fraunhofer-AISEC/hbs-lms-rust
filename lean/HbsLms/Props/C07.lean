/-
C07 - the released signature has the RFC 8554 layout: level count minus one, then for every upper level an LMS
signature by that level's current leaf over the next level's LMS public key followed by that public key, then the LMS
signature of the message by the bottom tree's current leaf; every LM-OTS part uses the Appendix-B parameters
(n, w, p, ls) of its type code, every length equals the RFC formula, and the randomizer is the seed-derived per-leaf
value. For an arbitrary `H : HashFn`, without aux data, and for whatever parameter bytes
`CompressedParameterSet::to` (`paramsOfBytes`) accepts.
-/
import HbsLms.Lemmas.Positions
import HbsLms.Lemmas.PrivKey
import HbsLms.Props.C12

namespace Props.C07

open Impl Generated Lemmas Lemmas.Complete Lemmas.Layout Spec.AppendixB

/-- Whatever `LmotsSignature::sign` + `to_binary_representation` returns - for any parameters and inputs - has
exactly `lmots_signature_length(n, p) = 4 + n + n*p` bytes, and the randomizer had exactly `n` bytes. -/
theorem lmots_signature_exact_length {H : HashFn} {I qb seed : Bytes} {prm : LmotsParam} {C msg o : Bytes}
    (h : lmotsSign H I qb seed prm C msg = .ok o) :
    o.length = 4 + H.n + H.n * prm.p ∧ C.length = H.n := by
  obtain ⟨hC, rfl⟩ := lmotsSign_inv h
  rw [lmotsSigBytes_length _ _ _ _ _ _ _ hC, Nat.mul_add, Nat.mul_one]
  exact ⟨by omega, hC⟩

/-- Whatever `LmsSignature::sign` + `to_binary_representation` releases (no aux data) has exactly
`lms_signature_length(n, p, h) = 4 + (4 + n + n*p) + 4 + n*h` bytes; its leaf lies inside the tree. -/
theorem lms_signature_exact_length {H : HashFn} {cfg : Config} {k : LmsKey} {q : Nat} {msg C sig : Bytes}
    {a : Option ExpAux} (h : lmsSign H cfg k q msg C none = .ok (some (sig, a))) :
    sig.length = 4 + (4 + H.n + H.n * k.ots.p) + 4 + H.n * k.lms.h ∧ C.length = H.n ∧ q < 2 ^ k.lms.h := by
  obtain ⟨hq, hC, rfl, -⟩ := lmsSign_none_inv h
  exact ⟨lmsSigBytes_length H k q msg C hC, hC, hq⟩

/-- the serialised LMS public key of a tree with a 16-byte identifier has `4 + 4 + 16 + n` bytes -/
theorem lms_public_key_exact_length (H : HashFn) (k : LmsKey) (hI : k.I.length = 16) :
    (pkBytes H k).length = 4 + 4 + 16 + H.n := pkBytes_length H k hI

/-- the length formula of the model is the RFC 8554 one -/
theorem hssSigLen_rfc (n : Nat) (ps : List HssParam) :
    hssSigLen n ps =
      4 + (ps.map fun p => 12 + n * (p.ots.p + 1) + n * p.lms.h).sum + (ps.length - 1) * (24 + n) := by
  rw [hssSigLen_eq_sum]
  have : (fun p : HssParam => lms_signature_length n p.ots.p p.lms.h)
      = fun p : HssParam => 12 + n * (p.ots.p + 1) + n * p.lms.h := by
    funext p
    simp only [lms_signature_length, lmots_signature_length, Nat.mul_add, Nat.mul_one]
    omega
  rw [this]
  simp only [lms_public_key_length]

/-- The signature assembled by `hss_sign_core` has exactly `hssSigLen n ps` bytes. -/
theorem prepared_signature_exact_length {H : HashFn} {cfg : Config} {msg : Bytes} {k : RefKey} {hs : List Nat}
    {sig : Bytes} {a : Option Bytes} {r : Bytes} (h : signPrepare H cfg msg k none = .ok (.ready hs sig a r)) :
    ∃ ps, paramsOfBytes cfg H.n k.params = some ps ∧ sig.length = hssSigLen H.n ps := signPrepare_length h

theorem released_is_prepared {H : HashFn} {cfg : Config} {msg sk : Bytes} {cb : Bytes → Bool} {aux : Option Bytes}
    {o : SignOutcome} {sig : Bytes} (h : hssSign H cfg msg sk cb aux = .ok o) (hr : o.result = some sig) :
    ∃ k hs a r, RefKey.parse H.n sk = some k ∧ signPrepare H cfg msg k aux = .ok (.ready hs sig a r) := by
  obtain ⟨k, hs, a, r, hk, hp, -⟩ := hssSign_released h hr
  exact ⟨k, hs, a, r, hk, hp⟩

/-- Every signature released by `hss_sign_core` (no aux data; any key bytes, message and callback) has exactly
the RFC 8554 length for the key's parameter list. -/
theorem released_signature_exact_length {H : HashFn} {cfg : Config} {msg sk : Bytes} {cb : Bytes → Bool}
    {o : SignOutcome} {sig : Bytes} (h : hssSign H cfg msg sk cb none = .ok o) (hr : o.result = some sig) :
    ∃ k ps, RefKey.parse H.n sk = some k ∧ paramsOfBytes cfg H.n k.params = some ps ∧
      sig.length = 4 + (ps.map fun p => 12 + H.n * (p.ots.p + 1) + H.n * p.lms.h).sum + (ps.length - 1) * (24 + H.n) := by
  obtain ⟨k, hs, a, r, hk, hp⟩ := released_is_prepared h hr
  obtain ⟨ps, hps, hl⟩ := signPrepare_length hp
  exact ⟨k, ps, hk, hps, by rw [hl, hssSigLen_rfc]⟩

/-- The signature assembled by `hss_sign_core` for the key blob `(counter, params, seed)` is `hssSigBytes` of the seed,
the decoded parameter list, the counter and the message; every level has table parameters, a 16-byte identifier and
its current leaf inside its tree. -/
theorem prepared_signature_layout {H : HashFn} {cfg : Config} {msg : Bytes} {k : RefKey} {hs : List Nat} {sig : Bytes}
    {a : Option Bytes} {r : Bytes} (h : signPrepare H cfg msg k none = .ok (.ready hs sig a r)) :
    ∃ p0 rest, paramsOfBytes cfg H.n k.params = some (p0 :: rest) ∧
      hs = (p0 :: rest).map (·.lms.h) ∧
      sig = hssSigBytes H k.seed p0 rest k.counter msg ∧
      GoodKey H.n (topLevel H k.seed p0 rest k.counter).key ∧
      (∀ c ∈ lowerLevels H k.seed p0 rest k.counter, GoodKey H.n c.key) ∧
      qsOk (topLevel H k.seed p0 rest k.counter) (lowerLevels H k.seed p0 rest k.counter) ∧
      (bottomLevel H k.seed p0 rest k.counter).q < 2 ^ (bottomLevel H k.seed p0 rest k.counter).key.lms.h ∧
      expandPrivateKey H cfg k none = .ok (some (expandedOf H k.seed p0 rest k.counter, none)) :=
  have ⟨p0, rest, hl⟩ := signPrepare_layout h
  ⟨p0, rest, hl.params, hl.heights, hl.sig, hl.top, hl.lower, hl.qs, hl.bottom, hl.expanded⟩

/-- Every signature released by `hss_sign_core` (no aux data; any key bytes, message, callback) is `hssSigBytes`
of the parsed blob's seed, parameter list and counter. -/
theorem released_signature_layout {H : HashFn} {cfg : Config} {msg sk : Bytes} {cb : Bytes → Bool}
    {o : SignOutcome} {sig : Bytes} (h : hssSign H cfg msg sk cb none = .ok o) (hr : o.result = some sig) :
    ∃ k p0 rest, RefKey.parse H.n sk = some k ∧ paramsOfBytes cfg H.n k.params = some (p0 :: rest) ∧
      sig = hssSigBytes H k.seed p0 rest k.counter msg := by
  obtain ⟨k, hs, a, r, hk, hp⟩ := released_is_prepared h hr
  obtain ⟨p0, rest, hl⟩ := signPrepare_layout hp
  exact ⟨k, p0, rest, hk, hl.params, hl.sig⟩

/-! The defining equations of `hssSigBytes` and of its parts, so that the layout can be read off here. -/

/-- the whole signature: `u32 (L-1) ‖ signed public keys ‖ LMS signature of the message by the bottom level` -/
theorem hssSigBytes_eq (H : HashFn) (seed : Bytes) (p0 : HssParam) (rest : List HssParam) (c : Nat) (msg : Bytes) :
    hssSigBytes H seed p0 rest c msg =
      Bytes.u32be ((p0 :: rest).length - 1) ++
        spkBytes H (topLevel H seed p0 rest c) (lowerLevels H seed p0 rest c) ++
        lmsSigBytes H (bottomLevel H seed p0 rest c).key (bottomLevel H seed p0 rest c).q msg
          (signatureRandomizer H (bottomLevel H seed p0 rest c).key.seed (bottomLevel H seed p0 rest c).key.I
            (bottomLevel H seed p0 rest c).q) := rfl

/-- the same in terms of the `Expanded` structure computed by `HssPrivateKey::from`:
`u32 (L-1) ‖ (sigs[i] ‖ pubs[i])_i ‖ bottom signature`, the bottom level being the last of `levels` -/
theorem hssSigBytes_expanded_eq (H : HashFn) (seed : Bytes) (p0 : HssParam) (rest : List HssParam) (c : Nat) (msg : Bytes) :
    hssSigBytes H seed p0 rest c msg =
      Bytes.u32be ((expandedOf H seed p0 rest c).levels.length - 1) ++
        (List.zipWith (· ++ ·) (expandedOf H seed p0 rest c).sigs (expandedOf H seed p0 rest c).pubs).flatten ++
        lmsSigBytes H (bottomLevel H seed p0 rest c).key (bottomLevel H seed p0 rest c).q msg
          (msgC H (bottomLevel H seed p0 rest c)) ∧
      (expandedOf H seed p0 rest c).levels.getLast? = some (bottomLevel H seed p0 rest c) :=
  ⟨hssSigBytes_expanded H seed p0 rest c msg, expandedOf_getLast? H seed p0 rest c⟩

/-- the `Expanded` structure: the levels, the public keys of levels `1 … L-1`, the signatures by levels `0 … L-2` -/
theorem expandedOf_eq (H : HashFn) (seed : Bytes) (p0 : HssParam) (rest : List HssParam) (c : Nat) :
    expandedOf H seed p0 rest c =
      ⟨topLevel H seed p0 rest c :: lowerLevels H seed p0 rest c,
       (lowerLevels H seed p0 rest c).map (fun l => pkBytes H l.key),
       sigsOf H (topLevel H seed p0 rest c) (lowerLevels H seed p0 rest c)⟩ := rfl

/-- the signed public keys: for every upper level `i < L-1`, the LMS signature by level `i` at its current leaf over
the serialised LMS public key of level `i+1`, followed by that public key -/
theorem signed_public_keys_eq (H : HashFn) (top : Level) (lower : List Level) (d : Level) :
    spkBytes H top lower = ((List.range lower.length).map fun i =>
      lmsSigBytes H ((top :: lower).getD i d).key ((top :: lower).getD i d).q
          (pkBytes H ((top :: lower).getD (i + 1) d).key) (linkC H ((top :: lower).getD i d)) ++
        pkBytes H ((top :: lower).getD (i + 1) d).key).flatten := spkBytes_indexed H lower top d

/-- an LMS signature: `u32 q ‖ LM-OTS signature ‖ u32 LMS type ‖ path[0] ‖ … ‖ path[h-1]`, the path being the siblings
`T[(2^h + q) / 2^i xor 1]` of the nodes on the walk from the leaf to the root -/
theorem lms_signature_eq (H : HashFn) (k : LmsKey) (q : Nat) (msg C : Bytes) :
    lmsSigBytes H k q msg C =
      Bytes.u32be q ++ lmotsSigBytes H k.I (Bytes.u32be q) k.seed k.ots C msg ++ Bytes.u32be k.lms.typeId ++
        ((List.range k.lms.h).map fun i => T H k i (((2 ^ k.lms.h + q) / 2 ^ i) ^^^ 1)).flatten := rfl

/-- an LMS public key: `u32 LMS type ‖ u32 LM-OTS type ‖ I ‖ T[1]` -/
theorem lms_public_key_eq (H : HashFn) (k : LmsKey) :
    pkBytes H k = Bytes.u32be k.lms.typeId ++ Bytes.u32be k.ots.typeId ++ k.I ++ T H k k.lms.h 1 := rfl

/-- the Merkle tree: leaves `H(I ‖ u32 r ‖ D_LEAF ‖ OTS_PUB[r - 2^h])`, inner nodes `H(I ‖ u32 r ‖ D_INTR ‖ T[2r] ‖ T[2r+1])` -/
theorem tree_eq (H : HashFn) (k : LmsKey) (d r : Nat) :
    T H k 0 r = leafNode H k r ∧
    T H k (d + 1) r = H.h (k.I ++ Bytes.u32be r ++ D_INTR ++ T H k d (2 * r) ++ T H k d (2 * r + 1)) := ⟨rfl, rfl⟩

/-- the randomizers: the bottom level signs the message with `SeedDerive(seed, I, q, 0xfffd)` of its own tree at its
current leaf; an upper level signs its child's public key with `SeedDerive(child seed, child I, q, 0xfffd)`, where
`q` is the upper level's current leaf and (child seed, child I) are derived from the upper level's seed, `I` and `q` -/
theorem randomizers_eq (H : HashFn) (l : Level) :
    msgC H l = seedDerive H l.key.seed l.key.I l.q SEED_SIGNATURE_RANDOMIZER_SEED ∧
    linkC H l = seedDerive H (seedDerive H l.key.seed l.key.I l.q SEED_CHILD_SEED)
        ((seedDerive H l.key.seed l.key.I l.q (SEED_CHILD_SEED + 1)).take 16) l.q SEED_SIGNATURE_RANDOMIZER_SEED :=
  ⟨rfl, rfl⟩

/-- the trees: level 0 is derived from the blob's seed; the tree below `parent` gets
`seed = SeedDerive(parent seed, parent I, parent q, 0xfffe)`, `I = SeedDerive(…, 0xffff)[0..16]` -/
theorem levels_eq (H : HashFn) (seed : Bytes) (p0 p : HssParam) (parent : Level) (q : Nat) :
    rootKey H seed p0 = ⟨(rootSeedAndId H seed).2, (rootSeedAndId H seed).1, p0.ots, p0.lms⟩ ∧
    childLevel H parent p q =
      ⟨⟨(seedDerive H parent.key.seed parent.key.I parent.q (SEED_CHILD_SEED + 1)).take 16,
        seedDerive H parent.key.seed parent.key.I parent.q SEED_CHILD_SEED, p.ots, p.lms⟩, q⟩ := ⟨rfl, rfl⟩

/-- the chain of levels: each lower level is the `childLevel` of the one above it -/
theorem lowerLevels_eq (H : HashFn) (leaves : List Nat) (i : Nat) (parent : Level) (p : HssParam) (rest : List HssParam) :
    childrenOf H leaves i parent [] = [] ∧
    childrenOf H leaves i parent (p :: rest) =
      childLevel H parent p (leaves.getD i 0) ::
        childrenOf H leaves (i + 1) (childLevel H parent p (leaves.getD i 0)) rest := ⟨rfl, rfl⟩

/-- level `j` of the key carries the `j`-th parameter pair of the blob and, as current leaf, digit `j` of the counter
written in mixed radix with the tree sizes `2^(h_i)` as radices (bottom level least significant) -/
theorem level_params_and_leaf (H : HashFn) (seed : Bytes) (p0 : HssParam) (rest : List HssParam) (c : Nat)
    (j : Nat) (hj : j < (p0 :: rest).length) :
    ∃ l, (topLevel H seed p0 rest c :: lowerLevels H seed p0 rest c)[j]? = some l ∧
      l.key.ots = (p0 :: rest)[j].ots ∧ l.key.lms = (p0 :: rest)[j].lms ∧
      l.q = c / 2 ^ (((p0 :: rest).map (·.lms.h)).drop (j + 1)).sum % 2 ^ (p0 :: rest)[j].lms.h := by
  obtain ⟨hq, ho, hl⟩ := Positions.levelAt_q H seed p0 rest c j hj
  refine ⟨_, Positions.levels_getElem? H seed p0 rest c j hj, ho, hl, ?_⟩
  rw [hq, Positions.leafAt, Lemmas.mixedRadix_getD _ _ j (by rw [Positions.heights_length]; exact hj),
    Positions.heights_getD p0 rest hj]
  rfl

/-- number of levels: `L = ` length of the parameter list -/
theorem levels_count (H : HashFn) (seed : Bytes) (p0 : HssParam) (rest : List HssParam) (c : Nat) :
    (topLevel H seed p0 rest c :: lowerLevels H seed p0 rest c).length = (p0 :: rest).length :=
  congrArg (· + 1) (lowerLevels_length H seed p0 rest c)

/-- On a table row, `digitOf`, the number of chain steps the signer takes on chain `i`, is digit `i` of the RFC 8554
digit vector of the digest with the row's `w` and `ls`. That `n` is one of 16, 24, 32 follows from `ht`: the table has
rows for no other length. -/
theorem digitOf_eq_spec (n : Nat) (prm : LmotsParam) (Q : Bytes)
    (ht : Params.lmotsGetFromType n prm.typeId = some prm) (hQ : Q.length = n) {i : Nat} (hi : i < prm.p) :
    digitOf n prm Q i = (digitsSpec n prm.w prm.ls Q).getD i 0 := by
  have hp := (Lemmas.Digits.rowShapeOk_iff.mp (Props.C12.library_row_shape (lmotsGetFromType_hashLen ht) ht)).2.1
  rw [digitOf_eq (otsRowGood_of_getFromType ht) Q hQ hi, ← Lemmas.digitVec_eq_digitsSpec hp, Lemmas.digitVec]
  simp [List.getD_eq_getElem?_getD, hi]

/-- For a library row (`n ∈ {16, 24, 32}`), the LM-OTS signature inside an LMS signature is
`u32 type ‖ C ‖ y[0] ‖ … ‖ y[p-1]` with `y[i] = chain^{d_i}(x_i)`, `x_i = H(I ‖ u32 q ‖ u16 i ‖ 0xff ‖ SEED)`, and
`d = digitsSpec n w ls (H(I ‖ u32 q ‖ D_MESG ‖ C ‖ content))` the RFC 8554 digit vector of the message digest.
(`hn` follows from `ht`, see `digitOf_eq_spec`, and is not used.) -/
theorem lmots_signature_eq (H : HashFn) (I qb seed : Bytes) (prm : LmotsParam) (C msg : Bytes)
    (hn : H.n = 16 ∨ H.n = 24 ∨ H.n = 32) (ht : Params.lmotsGetFromType H.n prm.typeId = some prm) :
    lmotsSigBytes H I qb seed prm C msg =
      Bytes.u32be prm.typeId ++ C ++
        ((List.range prm.p).map fun i =>
          chain H I qb i (H.h (I ++ qb ++ Bytes.u16be i ++ [0xff] ++ seed)) 0
            ((digitsSpec H.n prm.w prm.ls (H.h (I ++ qb ++ D_MESG ++ C ++ msg))).getD i 0)).flatten := by
  unfold lmotsSigBytes sigChains
  congr 2
  apply List.map_congr_left
  intro i hi
  have hi' : i < prm.p := List.mem_range.mp hi
  rw [lmotsPrivateKey_getD H I qb seed prm hi',
    digitOf_eq_spec H.n prm _ ht (by unfold msgDigest; exact H.len_h _) hi']
  rfl

/-- what `lmotsSign` returns for a library row is that closed form -/
theorem lmotsSign_eq_spec (H : HashFn) (I qb seed : Bytes) (prm : LmotsParam) (C msg o : Bytes)
    (hn : H.n = 16 ∨ H.n = 24 ∨ H.n = 32) (ht : Params.lmotsGetFromType H.n prm.typeId = some prm)
    (h : lmotsSign H I qb seed prm C msg = .ok o) :
    o = Bytes.u32be prm.typeId ++ C ++
        ((List.range prm.p).map fun i =>
          chain H I qb i (H.h (I ++ qb ++ Bytes.u16be i ++ [0xff] ++ seed)) 0
            ((digitsSpec H.n prm.w prm.ls (H.h (I ++ qb ++ D_MESG ++ C ++ msg))).getD i 0)).flatten := by
  rw [(lmotsSign_inv h).2]
  exact lmots_signature_eq H I qb seed prm C msg hn ht

/-- a hash chain: `chain x a b` applies `H(I ‖ u32 q ‖ u16 i ‖ u8 j ‖ ·)` for `j = a, …, b-1` -/
theorem chain_eq (H : HashFn) (I qb : Bytes) (i : Nat) (x : Bytes) (j cnt : Nat) :
    chain H I qb i x j j = x ∧
    chainFrom H I qb i (cnt + 1) j x =
      chainFrom H I qb i cnt (j + 1) (H.h (I ++ qb ++ Bytes.u16be i ++ [UInt8.ofNat j] ++ x)) := by
  refine ⟨?_, rfl⟩
  simp [chain, chainFrom]

/-- the library table: type code `t ∈ {1,2,3,4}` means `w = 2^(t-1)`. That the stored left shift is the Appendix B value
except for the rows (n,t) = (24,1), (16,1), (16,2), where it is smaller, is `Props.C12.table_rows_ok` with
`row_24_1_bad`, `row_16_1_bad`, `row_16_2_bad`. -/
theorem table_type_codes : ∀ n ∈ [16, 24, 32], ∀ t ∈ [1, 2, 3, 4],
    (Params.lmotsGetFromType n t).map (fun r => decide (r.w = 2 ^ (t - 1))) = some true := by decide +kernel

/-- the LMS table: type codes 5 … 9 mean `h = 5, 10, 15, 20, 25` (RFC 8554); type code 1 (`h = 2`) exists only
through the verification hook -/
theorem table_lms_type_codes : ∀ t ∈ [1, 5, 6, 7, 8, 9],
    (Params.lmsGetFromType t).map (fun r => decide (r.typeId = t) && decide (r.h = if t = 1 then 2 else 5 * (t - 4)))
      = some true := by decide +kernel

/-- what "Appendix-B parameters of its type code" means for one level: `ls` is the Appendix B value `16 - v*w` unless
(n, type) is one of (24,1), (16,1), (16,2), where the table's shift is strictly smaller -/
structure LevelAppendixB (n : Nat) (ots : LmotsParam) (lms : LmsParam) : Prop where
  otsRow : Params.lmotsGetFromType n ots.typeId = some ots
  otsType : ots.typeId ∈ [1, 2, 3, 4]
  w : ots.w = 2 ^ (ots.typeId - 1)
  wMem : ots.w ∈ [1, 2, 4, 8]
  p : ots.p = pRfc n ots.w
  lsLe : ots.ls ≤ 8
  ls : (n, ots.typeId) ∉ [(24, 1), (16, 1), (16, 2)] → ots.ls = lsRfc n ots.w
  lsBad : (n, ots.typeId) ∈ [(24, 1), (16, 1), (16, 2)] → ots.ls < lsRfc n ots.w
  lmsRow : Params.lmsGetFromType lms.typeId = some lms
  lmsType : lms.typeId ∈ [1, 5, 6, 7, 8, 9]
  h : lms.h = if lms.typeId = 1 then 2 else 5 * (lms.typeId - 4)

theorem levelAppendixB_of_rows {n : Nat} {ots : LmotsParam} {lms : LmsParam}
    (ho : Params.lmotsGetFromType n ots.typeId = some ots) (hl : Params.lmsGetFromType lms.typeId = some lms) :
    LevelAppendixB n ots lms := by
  have hn := lmotsGetFromType_hashLen ho
  have htm := Props.C12.library_type_mem ho
  obtain ⟨hw, hp, hls⟩ := Lemmas.Digits.rowShapeOk_iff.mp (Props.C12.library_row_shape hn ho)
  have ht := table_type_codes n (Lemmas.Digits.mem_of_hn hn) ots.typeId htm
  rw [ho] at ht
  have hw2 : ots.w = 2 ^ (ots.typeId - 1) := of_decide_eq_true (Option.some.inj ht)
  have hlm : lms.typeId ∈ [1, 5, 6, 7, 8, 9] := Lemmas.lmsGetFromType_type_mem hl
  have hlt := table_lms_type_codes lms.typeId hlm
  rw [hl] at hlt
  simp only [Option.map_some, Option.some.injEq, Bool.and_eq_true, decide_eq_true_eq] at hlt
  refine ⟨ho, htm, hw2, hw, hp, hls,
    fun hgood => (Lemmas.Digits.rowOk_iff.mp (Props.C12.library_row_ok hn ho hgood)).2.2, ?_, hl, hlm, hlt.2⟩
  -- the three rows whose stored shift C12 records: `ls` is 7, 7, 6 where Appendix B has 8
  have bad : ∀ {t l : Nat}, ots.typeId = t → (Params.lmotsGetFromType n t).map (·.ls) = some l →
      l < lsRfc n (2 ^ (t - 1)) → ots.ls < lsRfc n ots.w := fun ht hl' hlt' => by
    rw [← ht, ho] at hl'
    rw [hw2, ht, show ots.ls = _ from Option.some.inj hl']
    exact hlt'
  intro hbad
  simp only [List.mem_cons, Prod.mk.injEq, List.mem_nil_iff, or_false] at hbad
  rcases hbad with ⟨rfl, ht⟩ | ⟨rfl, ht⟩ | ⟨rfl, ht⟩
  · exact bad ht Props.C12.row_24_1_bad.2.1 (by decide)
  · exact bad ht Props.C12.row_16_1_bad.2.1 (by decide)
  · exact bad ht Props.C12.row_16_2_bad.2.1 (by decide)

/-- Whatever `CompressedParameterSet::to` accepts: `n ∈ {16, 24, 32}` and every level has the
Appendix B LM-OTS parameters of its type code and the RFC tree height of its LMS type code. -/
theorem accepted_params_appendixB {cfg : Config} {n : Nat} {bs : Bytes} {ps : List HssParam}
    (h : paramsOfBytes cfg n bs = some ps) :
    (n = 16 ∨ n = 24 ∨ n = 32) ∧ ∀ p ∈ ps, LevelAppendixB n p.ots p.lms := by
  have hok := ParamsOk.of_paramsOfBytes h
  exact ⟨hok.hashLen, fun p hp =>
    levelAppendixB_of_rows (GoodParam.of_paramsOk hok hp).ots (GoodParam.of_paramsOk hok hp).lms⟩

/-- Every level of the key with which a signature was assembled - i.e. every LM-OTS part
and every LMS part of the released signature - uses the Appendix B parameters of its type code. -/
theorem levels_appendixB {H : HashFn} {cfg : Config} {msg : Bytes} {k : RefKey} {hs : List Nat} {sig : Bytes}
    {a : Option Bytes} {r : Bytes} (h : signPrepare H cfg msg k none = .ok (.ready hs sig a r)) :
    ∃ p0 rest, paramsOfBytes cfg H.n k.params = some (p0 :: rest) ∧
      sig = hssSigBytes H k.seed p0 rest k.counter msg ∧
      (H.n = 16 ∨ H.n = 24 ∨ H.n = 32) ∧
      ∀ l ∈ topLevel H k.seed p0 rest k.counter :: lowerLevels H k.seed p0 rest k.counter,
        LevelAppendixB H.n l.key.ots l.key.lms ∧ l.key.I.length = 16 := by
  obtain ⟨p0, rest, hp⟩ := signPrepare_layout h
  obtain ⟨hn, _⟩ := accepted_params_appendixB hp.params
  refine ⟨p0, rest, hp.params, hp.sig, hn, ?_⟩
  intro l hl
  have g : GoodKey H.n l.key := by
    rcases List.mem_cons.mp hl with rfl | hl
    · exact hp.top
    · exact hp.lower l hl
  exact ⟨levelAppendixB_of_rows g.ots g.lms, g.I⟩

/-- C07. Every signature released by `hss_sign_core` (no aux data; any key bytes, message and callback):
it is `hssSigBytes` of the parsed blob (layout), has exactly the RFC 8554 length, the hash length is a table length,
and every level of the key - hence every LMS / LM-OTS part of the signature - carries a 16-byte identifier and the
Appendix B parameters of its type codes. -/
theorem released_signature_spec {H : HashFn} {cfg : Config} {msg sk : Bytes} {cb : Bytes → Bool}
    {o : SignOutcome} {sig : Bytes} (h : hssSign H cfg msg sk cb none = .ok o) (hr : o.result = some sig) :
    ∃ k p0 rest, RefKey.parse H.n sk = some k ∧ paramsOfBytes cfg H.n k.params = some (p0 :: rest) ∧
      sig = hssSigBytes H k.seed p0 rest k.counter msg ∧
      sig.length = 4 + ((p0 :: rest).map fun p => 12 + H.n * (p.ots.p + 1) + H.n * p.lms.h).sum +
        ((p0 :: rest).length - 1) * (24 + H.n) ∧
      (H.n = 16 ∨ H.n = 24 ∨ H.n = 32) ∧
      ∀ l ∈ topLevel H k.seed p0 rest k.counter :: lowerLevels H k.seed p0 rest k.counter,
        LevelAppendixB H.n l.key.ots l.key.lms ∧ l.key.I.length = 16 ∧ l.q < 2 ^ l.key.lms.h := by
  obtain ⟨k, hs, a, r, hk, hp⟩ := released_is_prepared h hr
  obtain ⟨p0, rest, hps, rfl, hn, hall⟩ := levels_appendixB hp
  refine ⟨k, p0, rest, hk, hps, rfl, ?_, hn,
    fun l hl => ⟨(hall l hl).1, (hall l hl).2, Positions.levels_q_lt H k.seed p0 rest k.counter l hl⟩⟩
  rw [hssSigBytes_length H k.seed p0 rest k.counter msg (fun l hl => (hall l (List.mem_cons_of_mem _ hl)).2),
    hssSigLen_rfc]

/-- the Appendix B table itself: `(u, v, ls, p)` for `n = 32, 24, 16` and `w = 1, 2, 4, 8` -/
theorem appendixB_values :
    [32, 24, 16].map (fun n => [1, 2, 4, 8].map fun w => (u n w, v n w, lsRfc n w, pRfc n w)) =
      [[(256, 9, 7, 265), (128, 5, 6, 133), (64, 3, 4, 67), (32, 2, 0, 34)],
       [(192, 8, 8, 200), (96, 5, 6, 101), (48, 3, 4, 51), (24, 2, 0, 26)],
       [(128, 8, 8, 136), (64, 4, 8, 68), (32, 3, 4, 35), (16, 2, 0, 18)]] := Props.C12.appendixB_values

/-! ## the statements are not vacuous -/

/-- a two-level instance of the length formula: `n = 32`, `(w=8, h=5)` over `(w=4, h=10)` gives 3860 bytes -/
example : hssSigLen 32 [⟨⟨4, 8, 34, 0⟩, ⟨5, 5⟩⟩, ⟨⟨3, 4, 67, 4⟩, ⟨6, 10⟩⟩] = 4 + (1292 + 56) + 2508 := by decide

example : LevelAppendixB 32 ⟨4, 8, 34, 0⟩ ⟨5, 5⟩ :=
  levelAppendixB_of_rows (by decide +kernel) (by decide +kernel)

end Props.C07

#print axioms Props.C07.lmots_signature_exact_length
#print axioms Props.C07.lms_signature_exact_length
#print axioms Props.C07.lms_public_key_exact_length
#print axioms Props.C07.hssSigLen_rfc
#print axioms Props.C07.prepared_signature_exact_length
#print axioms Props.C07.released_is_prepared
#print axioms Props.C07.released_signature_exact_length
#print axioms Props.C07.prepared_signature_layout
#print axioms Props.C07.released_signature_layout
#print axioms Props.C07.hssSigBytes_eq
#print axioms Props.C07.hssSigBytes_expanded_eq
#print axioms Props.C07.expandedOf_eq
#print axioms Props.C07.signed_public_keys_eq
#print axioms Props.C07.lms_signature_eq
#print axioms Props.C07.lms_public_key_eq
#print axioms Props.C07.tree_eq
#print axioms Props.C07.randomizers_eq
#print axioms Props.C07.levels_eq
#print axioms Props.C07.lowerLevels_eq
#print axioms Props.C07.level_params_and_leaf
#print axioms Props.C07.levels_count
#print axioms Props.C07.digitOf_eq_spec
#print axioms Props.C07.lmots_signature_eq
#print axioms Props.C07.lmotsSign_eq_spec
#print axioms Props.C07.chain_eq
#print axioms Props.C07.table_type_codes
#print axioms Props.C07.table_lms_type_codes
#print axioms Props.C07.levelAppendixB_of_rows
#print axioms Props.C07.accepted_params_appendixB
#print axioms Props.C07.levels_appendixB
#print axioms Props.C07.released_signature_spec
#print axioms Props.C07.appendixB_values
