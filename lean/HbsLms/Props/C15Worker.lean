/-
C15, worker side - `thread_optimize_message_hash`, `optimize_message_hash` and `fast_verify_eval`
(feature `fast_verify`): the search for a trailer never faults, scores a trial by the number of chain
iterations its digest costs, and hands `sign_mut` a trailer of exactly the hash output length.
For any `H` and any row `prm` with `Lemmas.OtsRowGood H.n prm` (every row a table lookup can return,
`Lemmas.otsRowGood_of_getFromType`); the worker's random start value (OsRng), the bytes `pre` hashed before the
trailer and the number of iterations are arbitrary, of any length.
-/
import HbsLms.Props.C15

namespace Props.C15Worker

open Impl Lemmas Lemmas.FastVerify

/-- for every checksum digit (`n*8/w ≤ i < p`), `checksum[index - HASH_FUNCTION_OUTPUT_SIZE]` in `fast_verify_eval`
neither underflows nor reads outside the two checksum bytes -/
theorem checksum_digit_index_ge_n {n : Nat} {prm : LmotsParam} (hg : OtsRowGood n prm = true) {i : Nat}
    (hlo : n * 8 / prm.w ≤ i) (hhi : i < prm.p) : n ≤ coefIndex i prm.w ∧ coefIndex i prm.w - n < 2 :=
  ck_digit_index hg hlo hhi

/-- Pre-repair code `index - 32`: for a hash output shorter than 31 bytes (`n = 24`, `n = 16`) every
digit index is `< n + 2 ≤ 32`, so `index - 32` on `usize` underflows for every checksum digit -/
theorem prerepair_index_below_32 {n : Nat} {prm : LmotsParam} (hg : OtsRowGood n prm = true) (hn : n + 2 ≤ 32)
    {i : Nat} (hi : i < prm.p) : coefIndex i prm.w < 32 := by
  have := coefIndex_lt hg hi
  omega

/-- the rows with `n = 24, 16` do have checksum digits (so the pre-repair underflow was reachable) -/
theorem short_hash_rows_have_checksum_digits : ∀ n ∈ [24, 16], ∀ t ∈ [1, 2, 3, 4],
    (Params.lmotsGetFromType n t).map (fun prm => decide (n * 8 / prm.w < prm.p)) = some true := by decide +kernel

/-- `fast_verify_eval` returns a value on every `n`-byte string, for every table row -/
theorem fast_verify_eval_never_faults {n : Nat} {prm : LmotsParam} (hg : OtsRowGood n prm = true) (bs : Bytes)
    (hl : bs.length = n) : ∃ v, fastVerifyEval n prm bs = .ok v :=
  ⟨_, fastVerifyEval_eq hg bs hl⟩

/-- in particular every hash output can be scored -/
theorem fast_verify_eval_never_faults_on_digest (H : HashFn) {prm : LmotsParam} (hg : OtsRowGood H.n prm = true)
    (x : Bytes) : ∃ v, fastVerifyEval H.n prm (H.h x) = .ok v :=
  fast_verify_eval_never_faults hg _ (H.len_h x)

/-- `fast_verify_eval` is the sum of the digit vector `Impl.digits` (message digits and checksum digits),
the positions the signer walks its chains to; this sum is what `sign_core` records as `hash_iterations` -/
theorem score_is_sum_of_digits {n : Nat} {prm : LmotsParam} (hg : OtsRowGood n prm = true) (bs : Bytes)
    (hl : bs.length = n) :
    ∃ ds, digits n prm bs = .ok ds ∧ ds.length = prm.p ∧ fastVerifyEval n prm bs = .ok ds.sum :=
  ⟨_, digits_eq_digitVec hg bs hl, by simp [digitVec], fastVerifyEval_eq hg bs hl⟩

/-- the same, as an equation between the two computations -/
theorem fast_verify_eval_eq_digits_sum {n : Nat} {prm : LmotsParam} (hg : OtsRowGood n prm = true) (bs : Bytes)
    (hl : bs.length = n) : fastVerifyEval n prm bs = (digits n prm bs).map List.sum := by
  rw [fastVerifyEval_eq hg bs hl, digits_eq_digitVec hg bs hl]; rfl

/-- the score is at most `p * (2^w - 1) < 2^16`: the `u16` accumulator of `fast_verify_eval` cannot overflow -/
theorem score_fits_u16 {n : Nat} {prm : LmotsParam} (hg : OtsRowGood n prm = true) (bs : Bytes)
    (hl : bs.length = n) : ∃ v, fastVerifyEval n prm bs = .ok v ∧ v ≤ prm.p * (2 ^ prm.w - 1) ∧ v < 65536 :=
  ⟨_, fastVerifyEval_eq hg bs hl, digitVec_sum_le n prm bs,
    Nat.lt_of_le_of_lt (digitVec_sum_le n prm bs) (Lemmas.FastVerify.score_fits_u16 hg)⟩

/-- `trial_randomizer` before the first iteration is the start value -/
theorem trialSeq_zero (H : HashFn) (t : Bytes) : trialSeq H t 0 = t := rfl

theorem trialSeq_succ (H : HashFn) (t : Bytes) (j : Nat) : trialSeq H t (j + 1) = trialSeq H (H.h t) j := rfl

/-- each iteration hashes `trial_randomizer` once: its `j`-th value is `H` applied `j` times to the start value -/
theorem trialSeq_succ' (H : HashFn) (t : Bytes) (j : Nat) : trialSeq H t (j + 1) = H.h (trialSeq H t j) := by
  induction j generalizing t with
  | zero => rfl
  | succ j ih => rw [trialSeq_succ, ih (H.h t)]; rfl

theorem trialScore_spec (H : HashFn) {prm : LmotsParam} (hg : OtsRowGood H.n prm = true) (pre start : Bytes) (j : Nat) :
    fastVerifyEval H.n prm (H.h (pre ++ trialSeq H start (j + 1))) = .ok (trialScore H prm pre start j) :=
  fastVerifyEval_eq hg _ (H.len_h _)

/-- `thread_optimize_message_hash` never faults, for any start value and number of iterations. It returns the
maximum of the trials' scores with the first trial value `H^(j+1)(start)` whose digest attains it, or `(0, zeros)`
when no trial scored above 0; the randomizer has the hash output length. -/
theorem worker_never_faults_returns_best (H : HashFn) {prm : LmotsParam} (hg : OtsRowGood H.n prm = true)
    (pre start : Bytes) (iters : Nat) :
    ∃ score r, workerRun H prm pre start iters = .ok (score, r) ∧ r.length = H.n ∧
      (∀ j, j < iters → ∃ v, fastVerifyEval H.n prm (H.h (pre ++ trialSeq H start (j + 1))) = .ok v ∧ v ≤ score) ∧
      ((score = 0 ∧ r = Bytes.zeros H.n) ∨
       (0 < score ∧ fastVerifyEval H.n prm (H.h (pre ++ r)) = .ok score ∧
         ∃ j, j < iters ∧ r = trialSeq H start (j + 1) ∧
           ∀ j', j' < j → ∃ v, fastVerifyEval H.n prm (H.h (pre ++ trialSeq H start (j' + 1))) = .ok v ∧ v < score)) := by
  -- the worker is `foldl keepBest` over the list of its trials (`workerRun_eq`), so it returns their first strict maximum
  have hmax := foldl_keepBest (trials H prm pre start iters) (0, Bytes.zeros H.n)
  have hlen := foldl_keepBest_length _ (0, Bytes.zeros H.n) H.n (Bytes.zeros_length _)
    (trials_mem_length H prm pre start iters)
  have hrun := workerRun_eq H hg pre start iters
  generalize (trials H prm pre start iters).foldl keepBest (0, Bytes.zeros H.n) = r at hmax hlen hrun
  have hget := fun j => trials_getElem? H prm pre start iters j
  refine ⟨r.1, r.2, hrun, hlen, fun j hj => ⟨_, trialScore_spec H hg pre start j, ?_⟩, hmax.first.imp ?_ ?_⟩
  · exact hmax.mem_le _ (List.mem_of_getElem? ((hget j _).mpr ⟨hj, rfl⟩))
  · rintro rfl; exact ⟨rfl, rfl⟩
  · rintro ⟨hpos, j, hj, hfirst⟩
    obtain ⟨hjk, rfl⟩ := (hget j r).mp hj
    exact ⟨hpos, trialScore_spec H hg pre start j, j, hjk, rfl, fun j' hj' =>
      ⟨_, trialScore_spec H hg pre start j', hfirst j' _ hj' ((hget j' _).mpr ⟨by omega, rfl⟩)⟩⟩

theorem worker_result_length (H : HashFn) {prm : LmotsParam} (hg : OtsRowGood H.n prm = true)
    (pre start : Bytes) (iters : Nat) {r : Nat × Bytes} (h : workerRun H prm pre start iters = .ok r) :
    r.2.length = H.n := by
  rw [workerRun_eq H hg pre start iters] at h
  cases h
  exact foldl_keepBest_length _ _ H.n (Bytes.zeros_length _) (trials_mem_length H prm pre start iters)

/-- no worker faults: the list of their results is the list of the first strict maxima of their trials -/
theorem workers_all_return (H : HashFn) {prm : LmotsParam} (hg : OtsRowGood H.n prm = true)
    (pre : Bytes) (starts : List Bytes) (iters : Nat) :
    starts.mapM (fun start => workerRun H prm pre start iters) =
      .ok (starts.map fun s => (trials H prm pre s iters).foldl keepBest (0, Bytes.zeros H.n)) :=
  P.mapM_eq fun s _ => workerRun_eq H hg pre s iters

/-- Every schedule of the worker threads: whatever permutation `arrivals` of the workers' results the channel
delivers, the trailer the receiving loop ends with has exactly `n` bytes and is all-zero or the randomizer returned by
one of the workers -/
theorem trailer_any_schedule (H : HashFn) {prm : LmotsParam} (hg : OtsRowGood H.n prm = true)
    (pre : Bytes) (starts : List Bytes) (iters : Nat) (results arrivals : List (Nat × Bytes))
    (hres : starts.mapM (fun start => workerRun H prm pre start iters) = .ok results)
    (hperm : arrivals.Perm results) :
    (selectTrailer arrivals (Bytes.zeros H.n)).length = H.n ∧
    (selectTrailer arrivals (Bytes.zeros H.n) = Bytes.zeros H.n ∨
     ∃ s ∈ starts, ∃ score, workerRun H prm pre s iters = .ok (score, selectTrailer arrivals (Bytes.zeros H.n))) := by
  rw [workers_all_return H hg pre starts iters] at hres
  cases hres
  have hz : (Bytes.zeros H.n).length = H.n := by simp [Bytes.zeros]
  rw [selectTrailer_eq]
  rcases foldl_keepBest_mem arrivals (0, Bytes.zeros H.n) with e | e
  · rw [e]; exact ⟨hz, Or.inl rfl⟩
  · obtain ⟨s, hs, e⟩ := List.mem_map.mp (hperm.mem_iff.mp e)
    rw [← e]
    exact ⟨foldl_keepBest_length _ _ _ hz (trials_mem_length H prm pre s iters),
      Or.inr ⟨s, hs, _, workerRun_eq H hg pre s iters⟩⟩

/-- `optimize_message_hash` never faults, returns a trailer of exactly `n` bytes, and the trailer is all-zero or
the randomizer returned by one of the workers -/
theorem optimize_never_faults (H : HashFn) {prm : LmotsParam} (hg : OtsRowGood H.n prm = true)
    (pre : Bytes) (starts : List Bytes) (iters : Nat) :
    ∃ t, optimizeTrailer H prm pre starts iters = .ok t ∧ t.length = H.n ∧
      (t = Bytes.zeros H.n ∨ ∃ s ∈ starts, ∃ score, workerRun H prm pre s iters = .ok (score, t)) := by
  have h1 := workers_all_return H hg pre starts iters
  obtain ⟨h2, h3⟩ := trailer_any_schedule H hg pre starts iters _ _ h1 (List.Perm.refl _)
  exact ⟨_, optimizeTrailer_eq h1, h2, h3⟩

/-- a selected worker randomizer really is a trial value whose digest scores what the worker reported: the
trailer is all-zero or `H^(j+1)(start)` for one of the start values, and then its (positive) score is
`fast_verify_eval(H(pre ‖ trailer))` -/
theorem trailer_is_zero_or_a_scored_trial (H : HashFn) {prm : LmotsParam} (hg : OtsRowGood H.n prm = true)
    (pre : Bytes) (starts : List Bytes) (iters : Nat) :
    ∃ t, optimizeTrailer H prm pre starts iters = .ok t ∧
      (t = Bytes.zeros H.n ∨ ∃ s ∈ starts, ∃ j, j < iters ∧ t = trialSeq H s (j + 1) ∧
        ∃ score, 0 < score ∧ fastVerifyEval H.n prm (H.h (pre ++ t)) = .ok score) := by
  obtain ⟨t, h1, _, h3⟩ := optimize_never_faults H hg pre starts iters
  refine ⟨t, h1, ?_⟩
  rcases h3 with h | ⟨s, hs, score, hw⟩
  · exact Or.inl h
  · obtain ⟨score', r, e1, _, _, e4⟩ := worker_never_faults_returns_best H hg pre s iters
    rw [e1] at hw
    cases hw
    rcases e4 with ⟨_, e⟩ | ⟨hpos, hsc, j, hj, hr, _⟩
    · exact Or.inl e
    · exact Or.inr ⟨s, hs, j, hj, hr, score, hpos, hsc⟩

/-- Every trailer the optimisation can produce (every arrival order) has `n` bytes, so `sign_mut` with it does not
fault at `copy_from_slice` and is ordinary signing of `prefix ‖ trailer`. -/
theorem sign_mut_with_optimized_trailer_is_ordinary_signing (H : HashFn) (cfg : Config) {prm : LmotsParam}
    (hg : OtsRowGood H.n prm = true) (pre : Bytes) (starts : List Bytes) (iters : Nat)
    (results arrivals : List (Nat × Bytes))
    (hres : starts.mapM (fun start => workerRun H prm pre start iters) = .ok results)
    (hperm : arrivals.Perm results)
    (msg sk : Bytes) (cb : Bytes → Bool) (k : RefKey) (ps : List HssParam)
    (hl : ¬ msg.length ≤ H.n) (hz : Bytes.allZero (msg.drop (msg.length - H.n)) = true)
    (hk : RefKey.parse H.n sk = some k) (hp : paramsOfBytes cfg H.n k.params = some ps) :
    hssSignMut H cfg msg (selectTrailer arrivals (Bytes.zeros H.n)) sk cb =
      (hssSign H cfg (msg.take (msg.length - H.n) ++ selectTrailer arrivals (Bytes.zeros H.n)) sk cb none).map
        (fun o => (o, msg.take (msg.length - H.n) ++ selectTrailer arrivals (Bytes.zeros H.n))) :=
  Props.C15.accepted_is_ordinary_signing_of_returned_message H cfg msg _ sk cb k ps hl hz hk hp
    (trailer_any_schedule H hg pre starts iters results arrivals hres hperm).1

/-- the same for the list-order model `optimizeTrailer` -/
theorem sign_mut_with_optimizeTrailer_is_ordinary_signing (H : HashFn) (cfg : Config) {prm : LmotsParam}
    (hg : OtsRowGood H.n prm = true) (pre : Bytes) (starts : List Bytes) (iters : Nat) (t : Bytes)
    (ht : optimizeTrailer H prm pre starts iters = .ok t)
    (msg sk : Bytes) (cb : Bytes → Bool) (k : RefKey) (ps : List HssParam)
    (hl : ¬ msg.length ≤ H.n) (hz : Bytes.allZero (msg.drop (msg.length - H.n)) = true)
    (hk : RefKey.parse H.n sk = some k) (hp : paramsOfBytes cfg H.n k.params = some ps) :
    hssSignMut H cfg msg t sk cb =
      (hssSign H cfg (msg.take (msg.length - H.n) ++ t) sk cb none).map
        (fun o => (o, msg.take (msg.length - H.n) ++ t)) := by
  obtain ⟨t', h1, h2, _⟩ := optimize_never_faults H hg pre starts iters
  rw [h1] at ht
  cases ht
  exact Props.C15.accepted_is_ordinary_signing_of_returned_message H cfg msg _ sk cb k ps hl hz hk hp h2

/-- with 0 iterations (`MAX_HASH_OPTIMIZATIONS < THREADS`) a worker returns `(0, zeros)` -/
theorem worker_zero_iterations (H : HashFn) (prm : LmotsParam) (pre start : Bytes) :
    workerRun H prm pre start 0 = .ok (0, Bytes.zeros H.n) := rfl

/-- with 0 iterations the trailer stays all zero, for every number of workers -/
theorem optimize_zero_iterations (H : HashFn) (prm : LmotsParam) (pre : Bytes) (starts : List Bytes) :
    optimizeTrailer H prm pre starts 0 = .ok (Bytes.zeros H.n) := by
  rw [optimizeTrailer_eq (P.mapM_eq (g := fun _ => (0, Bytes.zeros H.n)) fun s _ => worker_zero_iterations H prm pre s),
    selectTrailer_eq]
  rcases foldl_keepBest_mem (starts.map fun _ => (0, Bytes.zeros H.n)) (0, Bytes.zeros H.n) with e | e
  · rw [e]
  · obtain ⟨_, _, e⟩ := List.mem_map.mp e
    rw [← e]

example {n t : Nat} {prm : LmotsParam} (h : Params.lmotsGetFromType n t = some prm) : OtsRowGood n prm = true :=
  otsRowGood_of_getFromType h

-- n = 16, w = 8 (p = 18, ls = 0): the all-zero digest has message digits 0 and checksum 16*255 = 0x0ff0
example : (fastVerifyEval 16 ⟨4, 8, 18, 0⟩ (Bytes.zeros 16)).toOption = some (0x0f + 0xf0) := by decide +kernel
-- n = 24, w = 4 (p = 51, ls = 4): the all-ones digest has 48 digits 15 and checksum 0
example : (fastVerifyEval 24 ⟨3, 4, 51, 4⟩ (List.replicate 24 0xff)).toOption = some (48 * 15) := by decide +kernel

example : Params.lmotsGetFromType 16 4 = some ⟨4, 8, 18, 0⟩ ∧ Params.lmotsGetFromType 24 3 = some ⟨3, 4, 51, 4⟩ := by
  decide +kernel

/-- a toy 16-byte "hash" (add 1 to every byte, truncate / pad to 16) to run the worker model in the kernel -/
def toyHash : HashFn := ⟨16, fun x => fixLen 16 (x.map (· + 1)), fun _ => fixLen_length _ _⟩

-- two iterations from the all-zero start: both trials score 255, the first one is kept (strict comparison)
example : (workerRun toyHash ⟨4, 8, 18, 0⟩ [7] (Bytes.zeros 16) 2).toOption = some (255, List.replicate 16 1) := by
  decide +kernel
-- two workers: the receiving loop ends with the first worker's randomizer (non-zero trailer)
example : (optimizeTrailer toyHash ⟨4, 8, 18, 0⟩ [7] [Bytes.zeros 16, List.replicate 16 9] 2).toOption =
    some (List.replicate 16 1) := by decide +kernel

end Props.C15Worker

#print axioms Props.C15Worker.checksum_digit_index_ge_n
#print axioms Props.C15Worker.prerepair_index_below_32
#print axioms Props.C15Worker.short_hash_rows_have_checksum_digits
#print axioms Props.C15Worker.fast_verify_eval_never_faults
#print axioms Props.C15Worker.fast_verify_eval_never_faults_on_digest
#print axioms Props.C15Worker.score_is_sum_of_digits
#print axioms Props.C15Worker.fast_verify_eval_eq_digits_sum
#print axioms Props.C15Worker.score_fits_u16
#print axioms Props.C15Worker.trialScore_spec
#print axioms Props.C15Worker.worker_never_faults_returns_best
#print axioms Props.C15Worker.worker_result_length
#print axioms Props.C15Worker.worker_zero_iterations
#print axioms Props.C15Worker.optimize_zero_iterations
#print axioms Props.C15Worker.workers_all_return
#print axioms Props.C15Worker.trailer_any_schedule
#print axioms Props.C15Worker.optimize_never_faults
#print axioms Props.C15Worker.trailer_is_zero_or_a_scored_trial
#print axioms Props.C15Worker.sign_mut_with_optimized_trailer_is_ordinary_signing
#print axioms Props.C15Worker.sign_mut_with_optimizeTrailer_is_ordinary_signing
