/-
C08 - keys are derived and encoded exactly as the hash-sigs reference does: the encoding of the private key blob.
The derivation is in `Props/C08Derive.lean`.
-/
import HbsLms.Lemmas.PrivKey

namespace Props.C08

open Impl Lemmas

/-- The private key blob is `counter (8 bytes, big-endian) ‖ 8 parameter bytes ‖ seed`, and parsing is its inverse. -/
theorem blob_round_trip (n : Nat) (k : RefKey) (hc : k.counter < 2 ^ 64) (hp : k.params.length = 8)
    (hs : k.seed.length = n) : RefKey.parse n k.bytes = some k :=
  RefKey.parse_bytes n k hp hs hc

theorem blob_layout (k : RefKey) : k.bytes = Bytes.be 8 k.counter ++ k.params ++ k.seed := rfl

/-- parsing is injective on what it accepts: the bytes determine counter, parameter bytes and seed -/
theorem parse_determines_bytes (n : Nat) (data : Bytes) (k : RefKey) (h : RefKey.parse n data = some k)
    (hc : True) : k.params = (data.drop 8).take 8 ∧ k.seed = (data.drop 16).take n ∧
      k.counter = Bytes.toNat (data.take 8) := by
  obtain ⟨_, _, _, rfl⟩ := RefKey.parse_some h
  exact ⟨rfl, rfl, rfl⟩

example : RefKey.parse 2 (RefKey.bytes ⟨300, [0x54, 0x13, 0xff, 0xff, 0xff, 0xff, 0xff, 0xff], [7, 9]⟩)
    = some ⟨300, [0x54, 0x13, 0xff, 0xff, 0xff, 0xff, 0xff, 0xff], [7, 9]⟩ := by decide

end Props.C08

#print axioms Props.C08.blob_round_trip
#print axioms Props.C08.parse_determines_bytes
