/-
C03 in terms of what the released signatures contain: "no LM-OTS key (tree identifier, leaf index) at any HSS level is
used in released signatures for two different signed contents."  Props/C03.lean gives strictly increasing counters with
pairwise different leaf vectors.  Here a one-time key position at level `j` is the pair `(pos hs c j, leafAt hs c j)` of
Lemmas/Positions.lean: the leaves chosen above level `j` and the leaf used at it.  Equal positions sign equal contents
for every hash function; equal (identifier, leaf) do so under the hypothesis `IdsDistinguishPositions`, which holds for
some hash functions and fails for others.
-/
import HbsLms.Lemmas.Positions
import HbsLms.Props.C05Tall
import HbsLms.Props.C07
import HbsLms.Lemmas.KeygenRefine
import HbsLms.Props.C08Toy

namespace Props.C03Ids

open Impl Spec Lemmas Lemmas.Layout Lemmas.Complete Lemmas.Positions

/-- The LMS tree at level `j` of the expanded key depends only on the position of level `j`, not on the rest of the
counter: same seed, same identifier, same LM-OTS and LMS parameters, for any hash function. -/
theorem tree_depends_only_on_position (H : HashFn) (seed : Bytes) (p0 : HssParam) (rest : List HssParam)
    (c c' j : Nat) (h : pos (heights p0 rest) c j = pos (heights p0 rest) c' j) :
    (levelAt H seed p0 rest c j).key = (levelAt H seed p0 rest c' j).key ∧
    idAt H seed p0 rest c j = idAt H seed p0 rest c' j :=
  ⟨levelAt_key_of_pos H seed p0 rest c c' j h, idAt_of_pos H seed p0 rest c c' j h⟩

/-- `tree_depends_only_on_position` in closed form: the `(SEED, I)` of the tree at level `j` is the hash-sigs child seed /
child identifier derivation iterated from the top seed along the position. -/
theorem tree_at_position (H : HashFn) (seed : Bytes) (p0 : HssParam) (rest : List HssParam) (c : Nat)
    (hs : seed.length = H.n) (h16 : 16 ≤ H.n) (hn : H.n ≤ 32) : ∀ j, j < (p0 :: rest).length →
    ((levelAt H seed p0 rest c j).key.seed, (levelAt H seed p0 rest c j).key.I)
      = treeAt H seed (pos (heights p0 rest) c j) := by
  intro j
  induction j with
  | zero =>
    intro _
    rw [levelAt_zero, topLevel, KeygenRefine.rootKey_eq H seed p0 hs hn]
    rfl
  | succ j ih =>
    intro hj
    have hjr : j < rest.length := Nat.lt_of_succ_lt_succ hj
    have hjL : j < (p0 :: rest).length := Nat.lt_of_succ_lt hj
    obtain ⟨e1, e2⟩ := KeygenRefine.childLevel_eq_spec H (levelAt H seed p0 rest c j) rest[j]
      (leafAt (heights p0 rest) c (j + 1))
      (KeygenRefine.levels_lens H seed p0 rest c h16 _ (levelAt_mem H seed p0 rest c j hjL)) hn
    have ih := ih hjL
    rw [levelAt_succ H seed p0 rest c j hjr,
      pos_succ_eq _ c j (by rw [heights_length]; exact Nat.lt_succ_of_lt hjr)]
    simp only [treeAt, List.foldl_append, List.foldl_cons, List.foldl_nil] at ih ⊢
    rw [← ih, e1, e2, (levelAt_q H seed p0 rest c j hjL).1]
    rfl

/-- The content signed at an upper level `j < L-1` - the serialised public key of level `j+1` - depends only on
the position of level `j+1`. -/
theorem signed_content_depends_only_on_position (H : HashFn) (seed : Bytes) (p0 : HssParam) (rest : List HssParam)
    (c c' : Nat) (msg msg' : Bytes) (j : Nat) (hj : j < rest.length)
    (h : pos (heights p0 rest) c (j + 1) = pos (heights p0 rest) c' (j + 1)) :
    signedContent H seed p0 rest c msg j = signedContent H seed p0 rest c' msg' j :=
  signedContent_of_pos_succ H seed p0 rest c c' msg msg' j hj h

/-- At an upper level the one-time key position fixes the LMS signature as well as the signed content: the randomizer
is derived from the tree and the leaf. -/
theorem same_otk_position_same_content (H : HashFn) (seed : Bytes) (p0 : HssParam) (rest : List HssParam)
    (c c' : Nat) (msg msg' : Bytes) (j : Nat) (hj : j < rest.length)
    (hp : pos (heights p0 rest) c j = pos (heights p0 rest) c' j)
    (hq : leafAt (heights p0 rest) c j = leafAt (heights p0 rest) c' j) :
    signedContent H seed p0 rest c msg j = signedContent H seed p0 rest c' msg' j ∧
    levelSig H seed p0 rest c msg j = levelSig H seed p0 rest c' msg' j := by
  have hjL : j < (p0 :: rest).length := by simp; omega
  have hk := levelAt_key_of_pos H seed p0 rest c c' j hp
  have hq' : (levelAt H seed p0 rest c j).q = (levelAt H seed p0 rest c' j).q := by
    rw [(levelAt_q H seed p0 rest c j hjL).1, (levelAt_q H seed p0 rest c' j hjL).1, hq]
  have hc := signedContent_of_otk_position H seed p0 rest c c' msg msg' j hj hp hq
  refine ⟨hc, ?_⟩
  simp only [levelSig, randomizerAt, hj, if_true, linkC, hk, hq', hc]

/-- At the bottom level `L-1` the one-time key position is the whole digit vector, which determines the counter
below the number of leaves. -/
theorem bottom_otk_position_determines_counter (hs : List Nat) (c c' j : Nat) (hj : j + 1 = hs.length)
    (hc : c < leavesTotal hs) (hc' : c' < leavesTotal hs) (hp : pos hs c j = pos hs c' j)
    (hq : leafAt hs c j = leafAt hs c' j) : c = c' :=
  bottom_position_determines_counter hs c c' j hj hc hc' hp hq

/-- `signedContent` and `levelSig` are what the released bytes contain: `hssSigBytes` (the released signature,
`Props.C07.released_signature_layout`) is `u32 (L-1)`, then for every upper level `i` the LMS signature `levelSig i`
followed by the content it signs, `signedContent i`, then `levelSig (L-1)` over `msg`; each `levelSig j` is made under
the tree `levelAt j` at the leaf `leafAt j`. -/
theorem released_bytes_by_levels (H : HashFn) (seed : Bytes) (p0 : HssParam) (rest : List HssParam) (c : Nat)
    (msg : Bytes) :
    hssSigBytes H seed p0 rest c msg =
      Bytes.u32be rest.length ++
        ((List.range rest.length).map fun i =>
          levelSig H seed p0 rest c msg i ++ signedContent H seed p0 rest c msg i).flatten ++
        levelSig H seed p0 rest c msg rest.length ∧
    signedContent H seed p0 rest c msg rest.length = msg ∧
    ∀ j, j < (p0 :: rest).length →
      levelSig H seed p0 rest c msg j =
        lmsSigBytes H (levelAt H seed p0 rest c j).key (leafAt (heights p0 rest) c j)
          (signedContent H seed p0 rest c msg j) (randomizerAt H seed p0 rest c j) ∧
      (levelAt H seed p0 rest c j).key.I = idAt H seed p0 rest c j := by
  refine ⟨?_, by simp [signedContent], fun j hj => ⟨?_, rfl⟩⟩
  · unfold hssSigBytes
    rw [spkBytes_indexed H _ _ (topLevel H seed p0 rest c), lowerLevels_length, bottomLevel_eq_levelAt]
    -- entry `i` of `topLevel :: lowerLevels` (default `topLevel`) is `levelAt i` by definition
    have hup : ∀ i ∈ List.range rest.length,
        lmsSigBytes H (levelAt H seed p0 rest c i).key (levelAt H seed p0 rest c i).q
            (pkBytes H (levelAt H seed p0 rest c (i + 1)).key) (linkC H (levelAt H seed p0 rest c i)) ++
          pkBytes H (levelAt H seed p0 rest c (i + 1)).key
        = levelSig H seed p0 rest c msg i ++ signedContent H seed p0 rest c msg i := by
      intro i hi
      simp only [levelSig, signedContent, randomizerAt, List.mem_range.mp hi, if_true]
    have hbot : lmsSigBytes H (levelAt H seed p0 rest c rest.length).key (levelAt H seed p0 rest c rest.length).q msg
        (msgC H (levelAt H seed p0 rest c rest.length)) = levelSig H seed p0 rest c msg rest.length := by
      simp only [levelSig, signedContent, randomizerAt, Nat.lt_irrefl, if_false]
    rw [← hbot, ← List.map_congr_left hup]
    rfl
  · unfold levelSig
    rw [(levelAt_q H seed p0 rest c j hj).1]

/-- Two counters below the number of leaves: equal one-time key positions at level `j` give equal signed
contents at level `j` for an upper level, and the same counter for the bottom level. -/
theorem otk_position_determines_content (H : HashFn) (seed : Bytes) (p0 : HssParam) (rest : List HssParam)
    (c c' : Nat) (msg msg' : Bytes) (j : Nat) (_hj : j < (p0 :: rest).length)
    (hc : c < leavesTotal (heights p0 rest)) (hc' : c' < leavesTotal (heights p0 rest))
    (hp : pos (heights p0 rest) c j = pos (heights p0 rest) c' j)
    (hq : leafAt (heights p0 rest) c j = leafAt (heights p0 rest) c' j) :
    (j < rest.length → signedContent H seed p0 rest c msg j = signedContent H seed p0 rest c' msg' j ∧
      levelSig H seed p0 rest c msg j = levelSig H seed p0 rest c' msg' j) ∧
    (j = rest.length → c = c') := by
  refine ⟨fun hjr => same_otk_position_same_content H seed p0 rest c c' msg msg' j hjr hp hq, ?_⟩
  intro hjr
  exact bottom_position_determines_counter (heights p0 rest) c c' j
    (by rw [heights_length, hjr]) hc hc' hp hq

/-- the released signatures of a session without aux data, as a list of `(counter, message, bytes)` -/
theorem session_releases {H : HashFn} {cfg : Config} {k0 : RefKey} {p0 : HssParam} {rest : List HssParam}
    (hp8 : k0.params.length = 8) (hseed : k0.seed.length = H.n)
    (hps : paramsOfBytes cfg H.n k0.params = some (p0 :: rest))
    (hc0 : k0.counter < capacity (heights p0 rest))
    (calls : List Call) (hnoaux : ∀ c ∈ calls, c.aux = none) (skN : Bytes) (log : List (Bytes × Bytes))
    (h : session H cfg k0.bytes calls = .ok (skN, log)) :
    ∃ rels : List Release,
      log = rels.map (fun r => (({ k0 with counter := r.counter } : RefKey).bytes, r.sig)) ∧
      (rels.map (·.counter)).Pairwise (· < ·) ∧
      ∀ r ∈ rels, k0.counter ≤ r.counter ∧ r.counter < capacity (heights p0 rest) ∧
        (∃ c ∈ calls, c.msg = r.msg) ∧ r.sig = hssSigBytes H k0.seed p0 rest r.counter r.msg := by
  obtain ⟨rels, final, hlog, hcalls, hpw, hmem, -⟩ := Lemmas.session_from_live hp8 hseed hps hc0 calls skN log h
  refine ⟨rels, hlog, hpw, fun r hr => ?_⟩
  obtain ⟨hlo, hhi⟩ := hmem _ (List.mem_map_of_mem hr)
  obtain ⟨c, hcall, hmsg, o, ho, hres⟩ := hcalls r hr
  rw [hnoaux c hcall] at ho
  obtain ⟨k, p0', rest', hk, hps', hsig⟩ := Props.C07.released_signature_layout ho hres
  -- the key of the log entry parses back to `k0` with the release's counter
  rw [Lemmas.RefKey.parse_bytes H.n ({ k0 with counter := r.counter } : RefKey) hp8 hseed
    (Nat.lt_of_lt_of_le hhi (capacity_le_u64 _))] at hk
  cases hk
  cases hps.symm.trans hps'
  exact ⟨hlo, hhi, ⟨c, hcall, hmsg⟩, hmsg ▸ hsig⟩

/-- what the session theorems conclude of two releases `ra` (index `a`), `rb` (index `b`) and a level `j`: the level signs
the same content in both and makes the same LMS signature; at the bottom level the two are the same release -/
def SameContentAt (H : HashFn) (seed : Bytes) (p0 : HssParam) (rest : List HssParam) (a b : Nat) (ra rb : Release)
    (j : Nat) : Prop :=
  signedContent H seed p0 rest ra.counter ra.msg j = signedContent H seed p0 rest rb.counter rb.msg j ∧
  levelSig H seed p0 rest ra.counter ra.msg j = levelSig H seed p0 rest rb.counter rb.msg j ∧
  (j = rest.length → a = b ∧ ra = rb)

theorem sameContentAt_of_position {H : HashFn} {seed : Bytes} {p0 : HssParam} {rest : List HssParam}
    (rels : List Release) (hpw : (rels.map (·.counter)).Pairwise (· < ·))
    (hlt : ∀ r ∈ rels, r.counter < leavesTotal (heights p0 rest))
    (a b : Nat) (ra rb : Release) (ha : rels[a]? = some ra) (hb : rels[b]? = some rb) (j : Nat)
    (hj : j < (p0 :: rest).length)
    (hp : pos (heights p0 rest) ra.counter j = pos (heights p0 rest) rb.counter j)
    (hq : leafAt (heights p0 rest) ra.counter j = leafAt (heights p0 rest) rb.counter j) :
    SameContentAt H seed p0 rest a b ra rb j := by
  have hra : ra ∈ rels := List.mem_of_getElem? ha
  have hrb : rb ∈ rels := List.mem_of_getElem? hb
  obtain ⟨h1, h2⟩ := otk_position_determines_content H seed p0 rest ra.counter rb.counter ra.msg rb.msg j hj
    (hlt ra hra) (hlt rb hrb) hp hq
  by_cases hjr : j < rest.length
  · obtain ⟨e1, e2⟩ := h1 hjr
    exact ⟨e1, e2, fun hje => by omega⟩
  · have hje : j = rest.length := by simp only [List.length_cons] at hj; omega
    have hcc := h2 hje
    -- in a strictly increasing list an element occurs at one index only
    have hab : a = b :=
      (List.getElem?_inj (by simpa using (List.getElem?_eq_some_iff.mp ha).1) (hpw.imp Nat.ne_of_lt)).1
        (by simp [List.getElem?_map, ha, hb, hcc])
    subst hab
    rw [ha] at hb
    cases hb
    exact ⟨rfl, rfl, fun _ => ⟨rfl, rfl⟩⟩

/-- From what `session_releases` says of the released counters, with or without aux buffers, to the statement about
positions: the counters increase strictly and lie below the capacity, which is what
`sameContentAt_of_position` needs. `Q` is whatever else is known of each release. -/
theorem sameContentAt_of_releases {H : HashFn} {seed : Bytes} {p0 : HssParam} {rest : List HssParam}
    {rels : List Release} {lo : Nat} {Q : Release → Prop} (hpw : (rels.map (·.counter)).Pairwise (· < ·))
    (hall : ∀ r ∈ rels, lo ≤ r.counter ∧ r.counter < Lemmas.capacity (heights p0 rest) ∧ Q r) :
    (∀ r ∈ rels, r.counter < Lemmas.capacity (heights p0 rest) ∧ Q r) ∧
    ∀ (a b : Nat) (ra rb : Release), rels[a]? = some ra → rels[b]? = some rb →
      ∀ j, j < (p0 :: rest).length →
        pos (heights p0 rest) ra.counter j = pos (heights p0 rest) rb.counter j →
        leafAt (heights p0 rest) ra.counter j = leafAt (heights p0 rest) rb.counter j →
        SameContentAt H seed p0 rest a b ra rb j :=
  ⟨fun r hr => (hall r hr).2, fun a b ra rb ha hb j hj hp hq =>
    sameContentAt_of_position rels hpw
      (fun r hr => Nat.lt_of_lt_of_le (hall r hr).2.1 (Lemmas.capacity_le_leaves _)) a b ra rb ha hb j hj hp hq⟩

/-- `no_position_signs_two_contents` for every key shape: no bound on the total height, the counter below the capacity
(for a blob that parses and has total height 64 or more that is no condition, `RefKey.parse_counter_lt`). -/
theorem no_position_signs_two_contents_all {H : HashFn} {cfg : Config} {k0 : RefKey} {p0 : HssParam} {rest : List HssParam}
    (hp8 : k0.params.length = 8) (hseed : k0.seed.length = H.n)
    (hps : paramsOfBytes cfg H.n k0.params = some (p0 :: rest))
    (hc0 : k0.counter < capacity (heights p0 rest))
    (calls : List Call) (hnoaux : ∀ c ∈ calls, c.aux = none) (skN : Bytes) (log : List (Bytes × Bytes))
    (h : session H cfg k0.bytes calls = .ok (skN, log)) :
    ∃ rels : List Release,
      log = rels.map (fun r => (({ k0 with counter := r.counter } : RefKey).bytes, r.sig)) ∧
      (∀ r ∈ rels, r.counter < capacity (heights p0 rest) ∧ (∃ c ∈ calls, c.msg = r.msg) ∧
        r.sig = hssSigBytes H k0.seed p0 rest r.counter r.msg) ∧
      ∀ (a b : Nat) (ra rb : Release), rels[a]? = some ra → rels[b]? = some rb →
        ∀ j, j < (p0 :: rest).length →
          pos (heights p0 rest) ra.counter j = pos (heights p0 rest) rb.counter j →
          leafAt (heights p0 rest) ra.counter j = leafAt (heights p0 rest) rb.counter j →
          SameContentAt H k0.seed p0 rest a b ra rb j := by
  obtain ⟨rels, h1, hpw, hall⟩ := session_releases hp8 hseed hps hc0 calls hnoaux skN log h
  exact ⟨rels, h1, sameContentAt_of_releases hpw hall⟩

/-- C03 for positions.  In any session on a key `(counter, p0 :: rest, seed)` with a counter below the number of leaves
(any messages and callbacks, no aux data): two released signatures that use the same one-time key position at level `j`
sign the same content there, the same child public key at an upper level; at the bottom level they are the same
release, hence the same message. -/
theorem no_position_signs_two_contents {H : HashFn} {cfg : Config} {k0 : RefKey} {p0 : HssParam} {rest : List HssParam}
    (hp8 : k0.params.length = 8) (hseed : k0.seed.length = H.n)
    (hps : paramsOfBytes cfg H.n k0.params = some (p0 :: rest)) (hsum : (heights p0 rest).sum ≤ 63)
    (hc0 : k0.counter < leavesTotal (heights p0 rest))
    (calls : List Call) (hnoaux : ∀ c ∈ calls, c.aux = none) (skN : Bytes) (log : List (Bytes × Bytes))
    (h : session H cfg k0.bytes calls = .ok (skN, log)) :
    ∃ rels : List Release,
      log = rels.map (fun r => (({ k0 with counter := r.counter } : RefKey).bytes, r.sig)) ∧
      (∀ r ∈ rels, r.counter < leavesTotal (heights p0 rest) ∧ (∃ c ∈ calls, c.msg = r.msg) ∧
        r.sig = hssSigBytes H k0.seed p0 rest r.counter r.msg) ∧
      ∀ (a b : Nat) (ra rb : Release), rels[a]? = some ra → rels[b]? = some rb →
        ∀ j, j < (p0 :: rest).length →
          pos (heights p0 rest) ra.counter j = pos (heights p0 rest) rb.counter j →
          leafAt (heights p0 rest) ra.counter j = leafAt (heights p0 rest) rb.counter j →
          SameContentAt H k0.seed p0 rest a b ra rb j := by
  rw [← C05Tall.capacity_le63 _ hsum] at hc0 ⊢
  exact no_position_signs_two_contents_all hp8 hseed hps hc0 calls hnoaux skN log h

/-- The identifiers of the key `(seed, p0 :: rest)` under `H` distinguish positions: two counters below the number of
leaves whose level-`j` tree identifiers coincide have the same level-`j` position. This is collision-freeness of the
identifier derivation chain (`treeAt`, see `tree_at_position`) of `H` on the positions of this key: a hypothesis of
the theorems that mention it, not an axiom, and false for some `H` (see the examples). -/
def IdsDistinguishPositions (H : HashFn) (seed : Bytes) (p0 : HssParam) (rest : List HssParam) : Prop :=
  ∀ c c', c < leavesTotal (heights p0 rest) → c' < leavesTotal (heights p0 rest) →
    ∀ j, j < (p0 :: rest).length →
      idAt H seed p0 rest c j = idAt H seed p0 rest c' j →
      pos (heights p0 rest) c j = pos (heights p0 rest) c' j

/-- Two counters: under `IdsDistinguishPositions`, equal (level, tree identifier, leaf index) give equal signed
contents at that level (upper level) resp. the same counter (bottom level). -/
theorem identifier_leaf_determines_content (H : HashFn) (seed : Bytes) (p0 : HssParam) (rest : List HssParam)
    (hid : IdsDistinguishPositions H seed p0 rest)
    (c c' : Nat) (msg msg' : Bytes) (j : Nat) (hj : j < (p0 :: rest).length)
    (hc : c < leavesTotal (heights p0 rest)) (hc' : c' < leavesTotal (heights p0 rest))
    (hI : idAt H seed p0 rest c j = idAt H seed p0 rest c' j)
    (hq : leafAt (heights p0 rest) c j = leafAt (heights p0 rest) c' j) :
    (j < rest.length → signedContent H seed p0 rest c msg j = signedContent H seed p0 rest c' msg' j ∧
      levelSig H seed p0 rest c msg j = levelSig H seed p0 rest c' msg' j) ∧
    (j = rest.length → c = c') :=
  otk_position_determines_content H seed p0 rest c c' msg msg' j hj hc hc' (hid c c' hc hc' j hj hI) hq

/-- from the statement about positions to the one about identifiers: under `IdsDistinguishPositions` equal identifiers of
two released counters are equal positions -/
theorem sameContentAt_of_identifiers {H : HashFn} {seed : Bytes} {p0 : HssParam} {rest : List HssParam}
    {rels : List Release} {Q : Release → Prop} (hid : IdsDistinguishPositions H seed p0 rest)
    (hall : ∀ r ∈ rels, r.counter < Lemmas.capacity (heights p0 rest) ∧ Q r)
    (hpos : ∀ (a b : Nat) (ra rb : Release), rels[a]? = some ra → rels[b]? = some rb →
      ∀ j, j < (p0 :: rest).length →
        pos (heights p0 rest) ra.counter j = pos (heights p0 rest) rb.counter j →
        leafAt (heights p0 rest) ra.counter j = leafAt (heights p0 rest) rb.counter j →
        SameContentAt H seed p0 rest a b ra rb j) :
    ∀ (a b : Nat) (ra rb : Release), rels[a]? = some ra → rels[b]? = some rb →
      ∀ j, j < (p0 :: rest).length →
        idAt H seed p0 rest ra.counter j = idAt H seed p0 rest rb.counter j →
        leafAt (heights p0 rest) ra.counter j = leafAt (heights p0 rest) rb.counter j →
        SameContentAt H seed p0 rest a b ra rb j := by
  intro a b ra rb ha hb j hj hI hq
  have hlt : ∀ r, r ∈ rels → r.counter < leavesTotal (heights p0 rest) := fun r hr =>
    Nat.lt_of_lt_of_le (hall r hr).1 (Lemmas.capacity_le_leaves _)
  exact hpos a b ra rb ha hb j hj
    (hid ra.counter rb.counter (hlt ra (List.mem_of_getElem? ha)) (hlt rb (List.mem_of_getElem? hb)) j hj hI) hq

/-- `no_identifier_leaf_signs_two_contents` for every key shape -/
theorem no_identifier_leaf_signs_two_contents_all {H : HashFn} {cfg : Config} {k0 : RefKey} {p0 : HssParam}
    {rest : List HssParam}
    (hp8 : k0.params.length = 8) (hseed : k0.seed.length = H.n)
    (hps : paramsOfBytes cfg H.n k0.params = some (p0 :: rest))
    (hc0 : k0.counter < capacity (heights p0 rest))
    (hid : IdsDistinguishPositions H k0.seed p0 rest)
    (calls : List Call) (hnoaux : ∀ c ∈ calls, c.aux = none) (skN : Bytes) (log : List (Bytes × Bytes))
    (h : session H cfg k0.bytes calls = .ok (skN, log)) :
    ∃ rels : List Release,
      log = rels.map (fun r => (({ k0 with counter := r.counter } : RefKey).bytes, r.sig)) ∧
      (∀ r ∈ rels, r.counter < capacity (heights p0 rest) ∧ (∃ c ∈ calls, c.msg = r.msg) ∧
        r.sig = hssSigBytes H k0.seed p0 rest r.counter r.msg) ∧
      ∀ (a b : Nat) (ra rb : Release), rels[a]? = some ra → rels[b]? = some rb →
        ∀ j, j < (p0 :: rest).length →
          idAt H k0.seed p0 rest ra.counter j = idAt H k0.seed p0 rest rb.counter j →
          leafAt (heights p0 rest) ra.counter j = leafAt (heights p0 rest) rb.counter j →
          SameContentAt H k0.seed p0 rest a b ra rb j := by
  obtain ⟨rels, h1, hall, hpos⟩ := no_position_signs_two_contents_all hp8 hseed hps hc0 calls hnoaux skN log h
  exact ⟨rels, h1, hall, sameContentAt_of_identifiers hid hall hpos⟩

/-- C03 for (level, tree identifier, leaf index).  In a session as in `no_position_signs_two_contents`, if the
identifiers of the key distinguish positions, two released signatures with the same identifier `I_j` and the same leaf
`q_j` at level `j` sign the same content there, the same child public key at an upper level; at the bottom level they
are the same release, hence the same message. -/
theorem no_identifier_leaf_signs_two_contents {H : HashFn} {cfg : Config} {k0 : RefKey} {p0 : HssParam}
    {rest : List HssParam}
    (hp8 : k0.params.length = 8) (hseed : k0.seed.length = H.n)
    (hps : paramsOfBytes cfg H.n k0.params = some (p0 :: rest)) (hsum : (heights p0 rest).sum ≤ 63)
    (hc0 : k0.counter < leavesTotal (heights p0 rest))
    (hid : IdsDistinguishPositions H k0.seed p0 rest)
    (calls : List Call) (hnoaux : ∀ c ∈ calls, c.aux = none) (skN : Bytes) (log : List (Bytes × Bytes))
    (h : session H cfg k0.bytes calls = .ok (skN, log)) :
    ∃ rels : List Release,
      log = rels.map (fun r => (({ k0 with counter := r.counter } : RefKey).bytes, r.sig)) ∧
      (∀ r ∈ rels, r.counter < leavesTotal (heights p0 rest) ∧ (∃ c ∈ calls, c.msg = r.msg) ∧
        r.sig = hssSigBytes H k0.seed p0 rest r.counter r.msg) ∧
      ∀ (a b : Nat) (ra rb : Release), rels[a]? = some ra → rels[b]? = some rb →
        ∀ j, j < (p0 :: rest).length →
          idAt H k0.seed p0 rest ra.counter j = idAt H k0.seed p0 rest rb.counter j →
          leafAt (heights p0 rest) ra.counter j = leafAt (heights p0 rest) rb.counter j →
          SameContentAt H k0.seed p0 rest a b ra rb j := by
  rw [← C05Tall.capacity_le63 _ hsum] at hc0 ⊢
  exact no_identifier_leaf_signs_two_contents_all hp8 hseed hps hc0 hid calls hnoaux skN log h

/-- Equal positions give equal identifiers without any hypothesis (`tree_depends_only_on_position`), so under
`IdsDistinguishPositions` the pair (identifier, leaf) and the one-time key position determine each other. -/
theorem ids_iff_positions (H : HashFn) (seed : Bytes) (p0 : HssParam) (rest : List HssParam)
    (hid : IdsDistinguishPositions H seed p0 rest) (c c' j : Nat) (hj : j < (p0 :: rest).length)
    (hc : c < leavesTotal (heights p0 rest)) (hc' : c' < leavesTotal (heights p0 rest)) :
    idAt H seed p0 rest c j = idAt H seed p0 rest c' j ↔
      pos (heights p0 rest) c j = pos (heights p0 rest) c' j :=
  ⟨hid c c' hc hc' j hj, idAt_of_pos H seed p0 rest c c' j⟩

/-! ### the hypothesis is neither vacuous nor automatic -/

def constHash : HashFn := ⟨16, fun _ => List.replicate 16 7, fun _ => by simp⟩

/-- Under a constant hash function all trees of a level have the same identifier: for two levels of the 4-leaf test tree
the counters 0 and 4 use different second-level trees (positions `[0]` and `[1]`) with the same identifier. -/
example (seed : Bytes) :
    ¬ IdsDistinguishPositions constHash seed Props.C08Derive.toySmall [Props.C08Derive.toySmall] := by
  intro hid
  have := hid 0 4 (by decide) (by decide) 1 (by decide) rfl
  revert this
  decide

/-- a single-level key has only one tree: the hypothesis holds for every hash function -/
example (H : HashFn) (seed : Bytes) (p0 : HssParam) : IdsDistinguishPositions H seed p0 [] := by
  intro c c' _ _ j hj _
  have : j = 0 := by simpa using hj
  subst this
  rfl

/-- the four second-level trees of the two-level toy key of `Props.C08Derive` (hash `toyMix`, seed `toySeed`, 4-leaf
trees, 16 counters) have four different identifiers -/
theorem toy_ids_distinguish :
    ∀ c, c < 16 → ∀ c', c' < 16 → ∀ j, j < 2 →
      idAt Props.C08Derive.toyMix Props.C08Derive.toySeed Props.C08Derive.toySmall [Props.C08Derive.toySmall] c j
        = idAt Props.C08Derive.toyMix Props.C08Derive.toySeed Props.C08Derive.toySmall [Props.C08Derive.toySmall] c' j →
      pos [2, 2] c j = pos [2, 2] c' j := by decide +kernel

example : IdsDistinguishPositions Props.C08Derive.toyMix Props.C08Derive.toySeed Props.C08Derive.toySmall
    [Props.C08Derive.toySmall] :=
  fun c c' hc hc' j hj hI => toy_ids_distinguish c hc c' hc' j hj hI

end Props.C03Ids

#print axioms Props.C03Ids.tree_depends_only_on_position
#print axioms Props.C03Ids.tree_at_position
#print axioms Props.C03Ids.signed_content_depends_only_on_position
#print axioms Props.C03Ids.same_otk_position_same_content
#print axioms Props.C03Ids.bottom_otk_position_determines_counter
#print axioms Props.C03Ids.released_bytes_by_levels
#print axioms Props.C03Ids.otk_position_determines_content
#print axioms Props.C03Ids.session_releases
#print axioms Props.C03Ids.sameContentAt_of_position
#print axioms Props.C03Ids.no_position_signs_two_contents
#print axioms Props.C03Ids.identifier_leaf_determines_content
#print axioms Props.C03Ids.no_identifier_leaf_signs_two_contents
#print axioms Props.C03Ids.ids_iff_positions
#print axioms Props.C03Ids.toy_ids_distinguish
#print axioms Props.C03Ids.no_position_signs_two_contents_all
#print axioms Props.C03Ids.no_identifier_leaf_signs_two_contents_all
