/-
C02: `hss_verify` returns success exactly when the RFC 8554 verification algorithm accepts. `Spec.hssValid` is section
6.3 with Algorithms 4b, 6 and 6a, written from the RFC text as total functions on byte strings (exact-length checks
included) and parameterised by the type-code tables. The theorem is an equality of results for all byte strings, every
hash function and every build configuration, so it contains totality: the left-hand side is `.ok _`.
-/
import HbsLms.Lemmas.VerifyRefine

namespace Props.C02

open Impl Lemmas Lemmas.Refine

/-- the tables the RFC algorithm is run with below are the library's two type-code lookups -/
theorem libTables_eq (n : Nat) : libTables n = ⟨Params.lmotsGetFromType n, Params.lmsGetFromType⟩ := rfl

/-! The four domain separators: the library's constant has the RFC value, and the specification uses it. -/

theorem d_pblc : Generated.D_PBLC = [0x80, 0x80] ∧ Spec.D_PBLC = Generated.D_PBLC := ⟨rfl, rfl⟩
theorem d_mesg : Generated.D_MESG = [0x81, 0x81] ∧ Spec.D_MESG = Generated.D_MESG := ⟨rfl, rfl⟩
theorem d_leaf : Generated.D_LEAF = [0x82, 0x82] ∧ Spec.D_LEAF = Generated.D_LEAF := ⟨rfl, rfl⟩
theorem d_intr : Generated.D_INTR = [0x83, 0x83] ∧ Spec.D_INTR = Generated.D_INTR := ⟨rfl, rfl⟩

/-- C02. On arbitrary byte strings, for every hash function and build configuration, `hss_verify` returns exactly the
verdict of the RFC 8554 algorithm run with the library's parameter tables; in particular it never faults. -/
theorem verify_iff_rfc (H : HashFn) (cfg : Config) (msg sig pk : Bytes) :
    Impl.hssVerify H cfg msg sig pk = .ok (Spec.hssValid H (libTables H.n) cfg.maxLevels msg sig pk) :=
  hss_refine H cfg msg sig pk

theorem verify_accepts_iff (H : HashFn) (cfg : Config) (msg sig pk : Bytes) :
    Impl.hssVerify H cfg msg sig pk = .ok true ↔ Spec.hssValid H (libTables H.n) cfg.maxLevels msg sig pk = true := by
  rw [verify_iff_rfc]
  exact ⟨Except.ok.inj, congrArg _⟩

/-- `hss_verify` called directly -/
theorem verifyEntry_fn (H : HashFn) (cfg : Config) (msg sig pk : Bytes) :
    verifyEntry .fn H cfg msg sig pk = .ok (Spec.hssValid H (libTables H.n) cfg.maxLevels msg sig pk) :=
  verify_iff_rfc H cfg msg sig pk

/-- 60 = `Config.maxHssPkLen`, the capacity of `VerifyingKey`. An RFC-valid key has `28 + n` bytes and the tables have
rows for `n ≤ 32` only, so the capacity check of `VerifyingKey::from_bytes` does not change the verdict. -/
theorem long_pk_invalid (H : HashFn) (maxLevels : Nat) (msg sig pk : Bytes) (h : pk.length > 60) :
    Spec.hssValid H (libTables H.n) maxLevels msg sig pk = false :=
  Bool.eq_false_iff.mpr fun hv => by
    obtain ⟨h1, h2⟩ := hssValid_pk_len H maxLevels msg sig pk hv
    omega

theorem verify_guarded (H : HashFn) (cfg : Config) (msg sig pk : Bytes) {c : Prop} [Decidable c]
    (hc : c → Spec.hssValid H (libTables H.n) cfg.maxLevels msg sig pk = false) :
    (if c then pure false else Impl.hssVerify H cfg msg sig pk) =
      .ok (Spec.hssValid H (libTables H.n) cfg.maxLevels msg sig pk) := by
  by_cases h : c
  · rw [if_pos h, hc h]; rfl
  · rw [if_neg h]; exact verify_iff_rfc H cfg msg sig pk

/-- `VerifierSignature` + `VerifyingKey`: unconditional -/
theorem verifyEntry_viaVerifierSignature (H : HashFn) (cfg : Config) (msg sig pk : Bytes) :
    verifyEntry .viaVerifierSignature H cfg msg sig pk =
      .ok (Spec.hssValid H (libTables H.n) cfg.maxLevels msg sig pk) :=
  verify_guarded H cfg msg sig pk fun h => long_pk_invalid H cfg.maxLevels msg sig pk h

/-- `Signature` + `VerifyingKey`: the signature must also fit the `Signature` buffer (tinyvec `u16` length and the
build's `MAX_HSS_SIGNATURE_LENGTH`) -/
theorem verifyEntry_viaSignature_exact (H : HashFn) (cfg : Config) (msg sig pk : Bytes) :
    verifyEntry .viaSignature H cfg msg sig pk =
      .ok (decide (sig.length ≤ 65535 ∧ sig.length ≤ cfg.maxHssSigLen) &&
        Spec.hssValid H (libTables H.n) cfg.maxLevels msg sig pk) := by
  simp only [verifyEntry]
  by_cases hs : sig.length ≤ 65535 ∧ sig.length ≤ cfg.maxHssSigLen
  · have hsig : (decide (sig.length > 65535) || decide (sig.length > cfg.maxHssSigLen)) = false := by
      rw [decide_eq_false (by omega), decide_eq_false (by omega)]; rfl
    rw [decide_eq_true hs, Bool.true_and, hsig, Bool.false_or]
    exact verify_guarded H cfg msg sig pk fun h => long_pk_invalid H cfg.maxLevels msg sig pk (of_decide_eq_true h)
  · have hsig : (decide (sig.length > 65535) || decide (sig.length > cfg.maxHssSigLen)) = true := by
      rw [Bool.or_eq_true, decide_eq_true_eq, decide_eq_true_eq]; omega
    rw [decide_eq_false hs, Bool.false_and, hsig, Bool.true_or, if_pos rfl]; rfl

/-- all three entry points return the RFC verdict (for the `Signature` entry point: on signatures that fit its buffer) -/
theorem verifyEntry_iff_rfc (e : Entry) (H : HashFn) (cfg : Config) (msg sig pk : Bytes)
    (hsig : e = .viaSignature → sig.length ≤ 65535 ∧ sig.length ≤ cfg.maxHssSigLen) :
    verifyEntry e H cfg msg sig pk = .ok (Spec.hssValid H (libTables H.n) cfg.maxLevels msg sig pk) := by
  cases e with
  | fn => exact verifyEntry_fn H cfg msg sig pk
  | viaSignature =>
    rw [verifyEntry_viaSignature_exact, decide_eq_true (hsig rfl), Bool.true_and]
  | viaVerifierSignature => exact verifyEntry_viaVerifierSignature H cfg msg sig pk

/-- with both capacity bounds as hypotheses the three entry points agree (the bound on the key is not needed) -/
theorem verifyEntry_iff_rfc' (e : Entry) (H : HashFn) (cfg : Config) (msg sig pk : Bytes)
    (_hs : sig.length ≤ 65535 ∧ sig.length ≤ cfg.maxHssSigLen) (_hp : pk.length ≤ 60) :
    verifyEntry e H cfg msg sig pk = .ok (Spec.hssValid H (libTables H.n) cfg.maxLevels msg sig pk) :=
  verifyEntry_iff_rfc e H cfg msg sig pk (fun _ => _hs)

/-- LM-OTS level: `InMemoryLmotsSignature::new` + exact length + `generate_public_key_candidate` = Algorithm 4b -/
theorem lmots_level (H : HashFn) (I : Bytes) (q : Nat) (msg ob : Bytes) :
    (match InMemLmotsSig.parse H.n ob with
     | some s =>
       if ob.length = 4 + H.n * (s.param.p + 1) then (lmotsCandidate H s I q msg).map some else pure none
     | none => pure none) = .ok (Spec.lmotsKc H (libTables H.n) I q msg ob) := by
  -- Algorithm 4b returns a value only on what the model parses, at the exact length (`lmotsKc_parses`)
  have hnone : (∀ s, InMemLmotsSig.parse H.n ob = some s → ob.length ≠ 4 + H.n * (s.param.p + 1)) →
      Spec.lmotsKc H (libTables H.n) I q msg ob = none := fun h =>
    Option.eq_none_iff_forall_ne_some.mpr fun kc hk => by
      obtain ⟨s, h1, h2⟩ := lmotsKc_parses H I q msg ob kc hk
      exact h s h1 h2
  cases hs : InMemLmotsSig.parse H.n ob with
  | none => rw [hnone fun s h => by rw [hs] at h; cases h]; rfl
  | some s =>
    simp only []
    by_cases hl : ob.length = 4 + H.n * (s.param.p + 1)
    · rw [if_pos hl, lmotsKc_eq H I q msg ob s hs hl]
    · rw [if_neg hl, hnone fun s' h => by rw [hs] at h; cases h; exact hl]; rfl

theorem lmots_level_parsed (H : HashFn) (I : Bytes) (q : Nat) (msg ob kc : Bytes) (s : InMemLmotsSig)
    (hs : InMemLmotsSig.parse H.n ob = some s) (hl : ob.length = 4 + H.n * (s.param.p + 1)) :
    lmotsCandidate H s I q msg = .ok kc ↔ Spec.lmotsKc H (libTables H.n) I q msg ob = some kc := by
  have he := lmotsKc_eq H I q msg ob s hs hl
  constructor
  · intro h; rw [h] at he; exact (Except.ok.inj he).symm
  · intro h
    obtain ⟨kc', h1, h2⟩ := P.map_eq_ok.mp he
    rw [h] at h2; cases h2; exact h1

/-- LMS level: both parsers + no left-over bytes + `lms::verify::verify` = Algorithm 6 (with 6a) -/
theorem lms_level (H : HashFn) (msg d kb : Bytes) :
    (match InMemLmsSig.parse H.n d, InMemLmsPk.parse H.n kb with
     | some s, some key =>
       if d.length = s.len H.n ∧ kb.length = 24 + H.n then lmsVerify H s key msg else pure false
     | _, _ => pure false) = .ok (Spec.lmsValid H (libTables H.n) msg d kb) :=
  lms_refine H msg d kb

theorem lms_level_parsed (H : HashFn) (msg d kb : Bytes) (s : InMemLmsSig) (key : InMemLmsPk)
    (hs : InMemLmsSig.parse H.n d = some s) (hd : d.length = s.len H.n)
    (hk : InMemLmsPk.parse H.n kb = some key) (hkl : kb.length = 24 + H.n) :
    lmsVerify H s key msg = .ok (Spec.lmsValid H (libTables H.n) msg d kb) :=
  lmsVerify_eq H msg d kb s key hs hd hk hkl

theorem rejected_of {H : HashFn} {cfg : Config} {msg sig pk : Bytes}
    (h : Spec.hssValid H (libTables H.n) cfg.maxLevels msg sig pk = true → False) :
    Impl.hssVerify H cfg msg sig pk = .ok false := by
  rw [verify_iff_rfc, Bool.eq_false_iff.mpr h]

/-- the level count announced by the signature (`Nspk`) -/
abbrev sigLevels (sig : Bytes) : Nat := Spec.strTou32 (Spec.bytesAt sig 0 4)
/-- the level count of the public key (`L`) -/
abbrev pkLevels (pk : Bytes) : Nat := Spec.strTou32 (Spec.bytesAt pk 0 4)

/-- wrong level count: `Nspk + 1 ≠ L` -/
theorem wrong_level_count_rejected (H : HashFn) (cfg : Config) (msg sig pk : Bytes)
    (h : sigLevels sig + 1 ≠ pkLevels pk) : Impl.hssVerify H cfg msg sig pk = .ok false :=
  rejected_of fun hv => h (hssValid_inv hv).levels

theorem too_many_levels_rejected (H : HashFn) (cfg : Config) (msg sig pk : Bytes)
    (h : sigLevels sig > cfg.maxLevels - 1) : Impl.hssVerify H cfg msg sig pk = .ok false :=
  rejected_of fun hv => Nat.not_lt.mpr (hssValid_inv hv).maxLevels h

/-- a public key that is not exactly `4 + 24 + n` bytes long -/
theorem pk_length_rejected (H : HashFn) (cfg : Config) (msg sig pk : Bytes) (h : pk.length ≠ 28 + H.n) :
    Impl.hssVerify H cfg msg sig pk = .ok false :=
  rejected_of fun hv => h (hssValid_pk_len H _ msg sig pk hv).1

/-- an accepted signature has exactly the RFC length: after `Nspk` signed public keys, what remains is one LMS
signature whose length is the one its type codes announce (nothing missing, nothing trailing) -/
theorem accepted_length_exact (H : HashFn) (cfg : Config) (msg sig pk : Bytes)
    (h : Impl.hssVerify H cfg msg sig pk = .ok true) :
    ∃ l last, Spec.splitSigned H.n (libTables H.n) (sigLevels sig) (sig.drop 4) = some (l, last) ∧
      Spec.lmsSigLen H.n (libTables H.n) last = some last.length :=
  hssValid_last_len H cfg.maxLevels msg sig pk ((verify_accepts_iff H cfg msg sig pk).mp h)

/-- … so a signature whose tail after the signed public keys is shorter or longer than that is rejected -/
theorem wrong_length_rejected (H : HashFn) (cfg : Config) (msg sig pk : Bytes) (l : List (Bytes × Bytes)) (last : Bytes)
    (hsp : Spec.splitSigned H.n (libTables H.n) (sigLevels sig) (sig.drop 4) = some (l, last))
    (hlen : Spec.lmsSigLen H.n (libTables H.n) last ≠ some last.length) :
    Impl.hssVerify H cfg msg sig pk = .ok false :=
  rejected_of fun hv => by
    obtain ⟨_, _, hsp', hlen'⟩ := hssValid_last_len H cfg.maxLevels msg sig pk hv
    cases hsp.symm.trans hsp'
    exact hlen hlen'

/-- … and a signature that cannot even be split into `Nspk` signed public keys is rejected -/
theorem unsplittable_rejected (H : HashFn) (cfg : Config) (msg sig pk : Bytes)
    (hsp : Spec.splitSigned H.n (libTables H.n) (sigLevels sig) (sig.drop 4) = none) :
    Impl.hssVerify H cfg msg sig pk = .ok false :=
  rejected_of fun hv => by
    obtain ⟨_, _, hsp', _⟩ := hssValid_last_len H cfg.maxLevels msg sig pk hv
    cases hsp.symm.trans hsp'

/-- extended: an accepted signature followed by any non-empty byte string is rejected -/
theorem trailing_bytes_rejected (H : HashFn) (cfg : Config) (msg sig pk extra : Bytes)
    (h : Impl.hssVerify H cfg msg sig pk = .ok true) (he : extra ≠ []) :
    Impl.hssVerify H cfg msg (sig ++ extra) pk = .ok false := by
  rw [verify_iff_rfc, hssValid_extend H cfg.maxLevels msg sig pk extra ((verify_accepts_iff H cfg msg sig pk).mp h) he]

/-- truncated: every proper prefix of an accepted signature is rejected -/
theorem truncated_rejected (H : HashFn) (cfg : Config) (msg sig pk : Bytes) (m : Nat)
    (h : Impl.hssVerify H cfg msg sig pk = .ok true) (hm : m < sig.length) :
    Impl.hssVerify H cfg msg (sig.take m) pk = .ok false :=
  rejected_of fun hv => by
    -- the full signature is the accepted prefix followed by at least one byte
    have hne : sig.drop m ≠ [] := fun h0 => by
      have := congrArg List.length h0
      rw [List.length_drop, List.length_nil] at this; omega
    have := hssValid_extend H cfg.maxLevels msg (sig.take m) pk (sig.drop m) hv hne
    rw [List.take_append_drop, (verify_accepts_iff H cfg msg sig pk).mp h] at this
    cases this

theorem unknown_lms_type_in_pk_rejected (H : HashFn) (cfg : Config) (msg sig pk : Bytes)
    (h : Params.lmsGetFromType (Spec.strTou32 (Spec.bytesAt pk 4 4)) = none) :
    Impl.hssVerify H cfg msg sig pk = .ok false :=
  rejected_of fun hv => by
    obtain ⟨_, ⟨_, hlp⟩, _⟩ := hssValid_pk hv
    cases hlp.symm.trans h

theorem unknown_lmots_type_in_pk_rejected (H : HashFn) (cfg : Config) (msg sig pk : Bytes)
    (h : Params.lmotsGetFromType H.n (Spec.strTou32 (Spec.bytesAt pk 8 4)) = none) :
    Impl.hssVerify H cfg msg sig pk = .ok false :=
  rejected_of fun hv => by
    obtain ⟨_, _, _, hop⟩ := hssValid_pk hv
    cases hop.symm.trans h

/-- Algorithm 6, LMS level: a signature whose LM-OTS type code differs from the public key's is rejected -/
theorem lms_ots_type_mismatch_rejected (H : HashFn) (T : Spec.Tables) (msg d kb : Bytes)
    (h : Spec.strTou32 (Spec.bytesAt d 4 4) ≠ Spec.strTou32 (Spec.bytesAt kb 4 4)) :
    Spec.lmsValid H T msg d kb = false :=
  Bool.eq_false_iff.mpr fun hv => h (lmsValid_types H T msg d kb hv).1

/-- Algorithm 6, LMS level: a signature whose LMS type code (read behind the LM-OTS signature) differs from the public
key's is rejected -/
theorem lms_type_mismatch_rejected (H : HashFn) (T : Spec.Tables) (msg d kb : Bytes) (op : LmotsParam)
    (hop : T.ots (Spec.strTou32 (Spec.bytesAt d 4 4)) = some op)
    (h : Spec.strTou32 (Spec.bytesAt d (4 + (4 + H.n * (op.p + 1))) 4) ≠ Spec.strTou32 (Spec.bytesAt kb 0 4)) :
    Spec.lmsValid H T msg d kb = false :=
  Bool.eq_false_iff.mpr fun hv => by
    obtain ⟨_, op', hop', h'⟩ := lmsValid_types H T msg d kb hv
    cases hop.symm.trans hop'
    exact h h'

/-- HSS level: the LM-OTS type code of the last LMS signature differs from the one in the key that verifies it
(the last signed public key, or the HSS public key itself for a one-level signature) -/
theorem last_sig_ots_type_mismatch_rejected (H : HashFn) (cfg : Config) (msg sig pk : Bytes)
    (l : List (Bytes × Bytes)) (last : Bytes)
    (hsp : Spec.splitSigned H.n (libTables H.n) (sigLevels sig) (sig.drop 4) = some (l, last))
    (h : Spec.strTou32 (Spec.bytesAt last 4 4) ≠ Spec.strTou32 (Spec.bytesAt (lastKey l (pk.drop 4)) 4 4)) :
    Impl.hssVerify H cfg msg sig pk = .ok false :=
  rejected_of fun hv => by
    obtain ⟨_, _, hsp', _, hlast⟩ := (hssValid_inv hv).split
    cases hsp.symm.trans hsp'
    cases hlast.symm.trans (lms_ots_type_mismatch_rejected H _ msg last _ h)

/-- HSS level: the LMS type code of the last LMS signature differs from the one in the key that verifies it -/
theorem last_sig_lms_type_mismatch_rejected (H : HashFn) (cfg : Config) (msg sig pk : Bytes)
    (l : List (Bytes × Bytes)) (last : Bytes) (op : LmotsParam)
    (hsp : Spec.splitSigned H.n (libTables H.n) (sigLevels sig) (sig.drop 4) = some (l, last))
    (hop : Params.lmotsGetFromType H.n (Spec.strTou32 (Spec.bytesAt last 4 4)) = some op)
    (h : Spec.strTou32 (Spec.bytesAt last (4 + (4 + H.n * (op.p + 1))) 4) ≠
      Spec.strTou32 (Spec.bytesAt (lastKey l (pk.drop 4)) 0 4)) :
    Impl.hssVerify H cfg msg sig pk = .ok false :=
  rejected_of fun hv => by
    obtain ⟨_, _, hsp', _, hlast⟩ := (hssValid_inv hv).split
    cases hsp.symm.trans hsp'
    cases hlast.symm.trans (lms_type_mismatch_rejected H _ msg last _ op hop h)

/-- one-level instance: `Nspk = 0`, the signature's LM-OTS type code (bytes 8..11) against the public key's (bytes 8..11) -/
theorem one_level_ots_type_mismatch_rejected (H : HashFn) (cfg : Config) (msg sig pk : Bytes)
    (h0 : sigLevels sig = 0)
    (h : Spec.strTou32 (Spec.bytesAt (sig.drop 4) 4 4) ≠ Spec.strTou32 (Spec.bytesAt (pk.drop 4) 4 4)) :
    Impl.hssVerify H cfg msg sig pk = .ok false :=
  last_sig_ots_type_mismatch_rejected H cfg msg sig pk [] (sig.drop 4) (by rw [h0]; rfl) h

example : (libTables 32).ots 4 = some ⟨4, 8, 34, 0⟩ ∧ (libTables 32).lms 5 = some ⟨5, 5⟩ := by decide +kernel
example : Spec.strTou32 [0, 0, 1, 2] = 258 ∧ Spec.u32str 258 = [0, 0, 1, 2] := by decide
example (H : HashFn) (cfg : Config) (msg : Bytes) : Impl.hssVerify H cfg msg [] [] = .ok false := by
  rw [verify_iff_rfc]; rfl

end Props.C02

#print axioms Props.C02.verify_iff_rfc
#print axioms Props.C02.verify_accepts_iff
#print axioms Props.C02.verifyEntry_iff_rfc
#print axioms Props.C02.verifyEntry_viaSignature_exact
#print axioms Props.C02.verifyEntry_viaVerifierSignature
#print axioms Props.C02.lmots_level
#print axioms Props.C02.lms_level
#print axioms Props.C02.wrong_level_count_rejected
#print axioms Props.C02.too_many_levels_rejected
#print axioms Props.C02.pk_length_rejected
#print axioms Props.C02.accepted_length_exact
#print axioms Props.C02.wrong_length_rejected
#print axioms Props.C02.unsplittable_rejected
#print axioms Props.C02.trailing_bytes_rejected
#print axioms Props.C02.truncated_rejected
#print axioms Props.C02.unknown_lms_type_in_pk_rejected
#print axioms Props.C02.unknown_lmots_type_in_pk_rejected
#print axioms Props.C02.lms_ots_type_mismatch_rejected
#print axioms Props.C02.lms_type_mismatch_rejected
#print axioms Props.C02.last_sig_ots_type_mismatch_rejected
#print axioms Props.C02.last_sig_lms_type_mismatch_rejected
#print axioms Props.C02.one_level_ots_type_mismatch_rejected
