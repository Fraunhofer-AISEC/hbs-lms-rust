/-
Counter arithmetic: the library's mask-then-shift leaf computation is the mixed-radix digit vector;
digit vectors determine the counter below the number of leaves; the successor in terms of the `capacity`
of a key shape.  The number of leaves is written `2 ^ hs.sum` here, as `Spec.mixedRadix` writes it; the statements of
the properties say `Spec.leavesTotal hs`, which is that number by definition.
-/
import HbsLms.Impl.Hss
import HbsLms.Spec.MixedRadix

namespace Lemmas

open Impl Spec

/-- the body of the loop in `Impl.leavesOfCounter` -/
private def stepF (h : Nat) (acc : List Nat × Nat) : List Nat × Nat :=
  ((acc.2 &&& (2 ^ h - 1)) :: acc.1, acc.2 >>> h)

/-- the loop of `CompressedUsedLeafsIndexes::to` yields the digits and leaves the part of the counter above them -/
theorem leaves_fold (hs : List Nat) (c : Nat) : hs.foldr stepF ([], c) = (mixedRadix hs c, c / 2 ^ hs.sum) := by
  induction hs with
  | nil => simp [mixedRadix]
  | cons h hs ih =>
    rw [List.foldr_cons, ih, stepF, mixedRadix, List.sum_cons, Nat.and_two_pow_sub_one_eq_mod,
      Nat.shiftRight_eq_div_pow, Nat.div_div_eq_div_mul, ← Nat.pow_add, Nat.add_comm]

theorem leavesOfCounter_eq (hs : List Nat) (c : Nat) : leavesOfCounter hs c = mixedRadix hs c :=
  congrArg Prod.fst (leaves_fold hs c)

theorem mixedRadix_length (hs : List Nat) (c : Nat) : (mixedRadix hs c).length = hs.length := by
  induction hs with
  | nil => rfl
  | cons h hs ih => simp [mixedRadix, ih]

theorem mixedRadix_getD (hs : List Nat) (c : Nat) : ∀ i, i < hs.length →
    (mixedRadix hs c).getD i 0 = c / 2 ^ (hs.drop (i + 1)).sum % 2 ^ hs.getD i 0 := by
  induction hs with
  | nil => intro i hi; cases hi
  | cons h hs ih =>
    intro i hi
    cases i with
    | zero => rfl
    | succ j => exact ih j (Nat.lt_of_succ_lt_succ hi)

theorem mixedRadix_lt (hs : List Nat) (c : Nat) (i : Nat) (hi : i < hs.length) :
    (mixedRadix hs c).getD i 0 < 2 ^ hs.getD i 0 := by
  rw [mixedRadix_getD hs c i hi]
  exact Nat.mod_lt _ (Nat.two_pow_pos _)

theorem radixValue_mixedRadix (hs : List Nat) (c : Nat) :
    radixValue hs (mixedRadix hs c) = c % 2 ^ hs.sum := by
  induction hs with
  | nil => simp [radixValue, Nat.mod_one]
  | cons h hs ih =>
    simp only [mixedRadix, radixValue, List.sum_cons]
    rw [ih, Nat.pow_add, Nat.mul_comm (2 ^ h) (2 ^ hs.sum), Nat.mod_mul, Nat.add_comm, Nat.mul_comm]

theorem mixedRadix_injective (hs : List Nat) (c c' : Nat) (hc : c < 2 ^ hs.sum) (hc' : c' < 2 ^ hs.sum)
    (h : mixedRadix hs c = mixedRadix hs c') : c = c' := by
  rw [← Nat.mod_eq_of_lt hc, ← Nat.mod_eq_of_lt hc', ← radixValue_mixedRadix, ← radixValue_mixedRadix, h]

theorem leaves_nodup_of_lt (hs : List Nat) {cs : List Nat} (hlt : cs.Pairwise (· < ·))
    (hb : ∀ c, c ∈ cs → c < 2 ^ hs.sum) : (cs.map (leavesOfCounter hs)).Nodup := by
  refine List.pairwise_map.2 (hlt.imp_of_mem fun {a b} ha hb' hab heq => ?_)
  rw [leavesOfCounter_eq, leavesOfCounter_eq] at heq
  exact absurd (mixedRadix_injective hs a b (hb a ha) (hb b hb') heq) (Nat.ne_of_lt hab)

/-- signatures a fresh key of shape `hs` can release: the number of leaves, capped at the number of values of the
8-byte counter -/
def capacity (hs : List Nat) : Nat := 2 ^ min hs.sum 64

theorem capacity_pos (hs : List Nat) : 0 < capacity hs := Nat.two_pow_pos _

theorem capacity_le64 (hs : List Nat) (h : hs.sum ≤ 64) : capacity hs = 2 ^ hs.sum := by
  rw [capacity, Nat.min_eq_left h]

theorem capacity_le63 (hs : List Nat) (h : hs.sum ≤ 63) : capacity hs = 2 ^ hs.sum :=
  capacity_le64 hs (by omega)

theorem capacity_tall (hs : List Nat) (h : 64 ≤ hs.sum) : capacity hs = 2 ^ 64 := by
  rw [capacity, Nat.min_eq_right h]

theorem capacity_le_u64 (hs : List Nat) : capacity hs ≤ 2 ^ 64 :=
  Nat.pow_le_pow_right (by omega) (Nat.min_le_right _ _)

theorem capacity_le_leaves (hs : List Nat) : capacity hs ≤ 2 ^ hs.sum :=
  Nat.pow_le_pow_right (by omega) (Nat.min_le_left _ _)

theorem leaves_ge65 {hs : List Nat} (hsum : 65 ≤ hs.sum) : 2 * 2 ^ 64 ≤ 2 ^ hs.sum :=
  Nat.pow_le_pow_right (by decide : 0 < 2) hsum

/-- `_all`: for every key shape, those with more leaves than counter values (`64 ≤ hs.sum`) included -/
theorem incrementCounter_all (hs : List Nat) (c : Nat) :
    incrementCounter hs c = if c + 1 < capacity hs then some (c + 1) else none := by
  have hp := capacity_pos hs
  have hcap : (if hs.sum ≥ 64 then 2 ^ 64 - 1 else 2 ^ hs.sum - 1) = capacity hs - 1 := by
    split
    · rw [capacity_tall hs ‹_›]
    · rw [capacity_le63 hs (by omega)]
  simp only [incrementCounter, ← List.sum_eq_foldl, hcap]
  by_cases h : c + 1 < capacity hs
  · rw [if_neg (by omega), if_pos h]
  · rw [if_pos (by omega), if_neg h]

end Lemmas
