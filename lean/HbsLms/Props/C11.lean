/-
C11 - key generation, signing and lifetime queries never panic, whatever the parameter list, private-key bytes
and auxiliary buffer; on the error paths the update callback is not invoked and no signature is released.
`Config.wellFormed`: a build configuration that `build.rs` accepts and whose Winternitz values are table values (key
generation needs no hypothesis on the configuration). `.ok o` means "the Rust function returned" (`o.result = none` is
`Err`), `.error (Fault.panic site)` means "the Rust function panicked at `site`".
-/
import HbsLms.Lemmas.SignTotal
import HbsLms.Props.C04

namespace Props.C11

open Impl Lemmas

/-- signing: any private-key bytes (wrong length, invalid parameter bytes, wiped, exhausted), any aux buffer -/
theorem sign_never_panics (H : HashFn) (cfg : Config) (hwf : cfg.wellFormed = true) (msg sk : Bytes)
    (cb : Bytes → Bool) (aux : Option Bytes) : ∃ o, hssSign H cfg msg sk cb aux = .ok o :=
  hssSign_ok H cfg hwf msg sk cb aux

/-- in terms of faults: no panic site is reachable -/
theorem sign_no_fault (H : HashFn) (cfg : Config) (hwf : cfg.wellFormed = true) (msg sk : Bytes)
    (cb : Bytes → Bool) (aux : Option Bytes) (site : String) :
    hssSign H cfg msg sk cb aux ≠ .error (Fault.panic site) := by
  obtain ⟨o, ho⟩ := sign_never_panics H cfg hwf msg sk cb aux
  rw [ho]; simp

/-- The only fault site of key generation is the `u8` addition of `CompressedParameterSet::from`: it returns for every
list whose type codes fit a nibble, whatever the other fields of the parameters and whatever the hash length. -/
theorem keygen_never_panics_of_type_lt (H : HashFn) (cfg : Config) (ps : List HssParam) (seed : Bytes)
    (aux : Option Bytes) (ht : ∀ p ∈ ps, p.ots.typeId < 16 ∧ p.lms.typeId < 16) :
    ∃ o, hssKeygen H cfg ps seed aux = .ok o := by
  cases htop : AuxCache.keygenTop H cfg ps with
  | none => exact ⟨_, by rw [AuxCache.hssKeygen_noTop htop, bytesOfParams_eq_ite cfg H.n ps ht]; rfl⟩
  | some p0 =>
    obtain ⟨pb, ps', hb, hp, hh⟩ := AuxCache.keygenTop_eq_some htop
    exact ⟨_, AuxCache.hssKeygen_eq hb hp hh seed aux⟩

/-- key generation: ANY list of table rows - empty, longer than eight levels, beyond the build limits -, any seed
(any length), any aux buffer, and any configuration (well-formed or not) -/
theorem keygen_never_panics (H : HashFn) (cfg : Config) (ps : List HssParam) (seed : Bytes) (aux : Option Bytes)
    (hrows : ∀ p ∈ ps, IsOtsRow H.n p.ots ∧ IsLmsRow p.lms) : ∃ o, hssKeygen H cfg ps seed aux = .ok o :=
  keygen_never_panics_of_type_lt H cfg ps seed aux (rows_type_lt hrows)

/-- the parameter values an application can construct: `HssParameter::new(LmotsAlgorithm, LmsAlgorithm)` for the
type codes of the tables -/
theorem keygen_never_panics_of_types (H : HashFn) (cfg : Config) (ts : List (Nat × Nat)) (ps : List HssParam)
    (seed : Bytes) (aux : Option Bytes)
    (hps : ts.mapM (fun t => do
      let o ← Params.lmotsGetFromType H.n t.1
      let l ← Params.lmsGetFromType t.2
      pure (⟨o, l⟩ : HssParam)) = some ps) : ∃ o, hssKeygen H cfg ps seed aux = .ok o := by
  apply keygen_never_panics
  induction ts generalizing ps with
  | nil => simp at hps; subst hps; simp
  | cons t ts ih =>
    simp only [List.mapM_cons, Option.bind_eq_bind, Option.bind_eq_some_iff, Option.pure_def, Option.some.injEq] at hps
    obtain ⟨p, ⟨o, ho, l, hl, rfl⟩, ps', hps', rfl⟩ := hps
    intro q hq
    rcases List.mem_cons.mp hq with rfl | hq
    · exact ⟨isOtsRow_of_getFromType ho, isLmsRow_of_getFromType hl⟩
    · exact ih ps' hps' q hq

/-- lifetime query: any private-key bytes -/
theorem lifetime_never_panics (H : HashFn) (cfg : Config) (hwf : cfg.wellFormed = true) (sk : Bytes) :
    ∃ r, getLifetime H cfg sk = .ok r := by
  cases hk : RefKey.parse H.n sk with
  | none => exact ⟨_, getLifetime_of_parse_none hk cfg⟩
  | some k =>
    obtain ⟨r, hr, _⟩ := expandPrivateKey_ok H cfg hwf k none
    exact ⟨_, by rw [getLifetime_of_parse hk, hr]; rfl⟩

/-- `SigningKey::try_sign_with_aux`: the closure's `copy_from_slice` always gets a key of the right length -/
theorem trySign_never_panics (H : HashFn) (cfg : Config) (hwf : cfg.wellFormed = true) (msg sk : Bytes)
    (aux : Option Bytes) : ∃ r, trySign H cfg msg sk aux = .ok r := by
  rw [trySign_eq]
  split
  · exact ⟨_, rfl⟩
  · obtain ⟨o, ho⟩ := hssSign_ok H cfg hwf msg sk (fun _ => true) aux
    exact ⟨_, by rw [ho]; rfl⟩

/-- `sign_outcomes` with the successor key named: the parsed key advanced by `increment` over the heights of ITS OWN
parameter list. -/
theorem sign_outcomes_of_key (H : HashFn) (cfg : Config) (hwf : cfg.wellFormed = true) (msg sk : Bytes)
    (cb : Bytes → Bool) (aux : Option Bytes) :
    ∃ o, hssSign H cfg msg sk cb aux = .ok o ∧
      ((o.result = none ∧ o.trace = []) ∨
       (∃ k ps, RefKey.parse H.n sk = some k ∧ paramsOfBytes cfg H.n k.params = some ps ∧
          o.trace = [(k.increment H.n (ps.map (·.lms.h))).bytes] ∧
          (o.result ≠ none ↔ cb (k.increment H.n (ps.map (·.lms.h))).bytes = true))) := by
  cases hk : RefKey.parse H.n sk with
  | none => exact ⟨_, hssSign_of_parse_none hk cfg msg cb aux, Or.inl ⟨rfl, rfl⟩⟩
  | some k =>
    obtain ⟨p, hp, hf, ho⟩ := hssSign_eq_commit H cfg hwf msg hk cb aux
    refine ⟨_, ho, ?_⟩
    cases p with
    | failed a r => exact Or.inl ⟨rfl, rfl⟩
    | ready hs sig a r =>
      obtain ⟨ps, hps, -, rfl, -⟩ := AuxCache.signPrepare_ready_shape hp
      rw [signCommit_ready_of_fits hf]
      refine Or.inr ⟨k, ps, rfl, hps, rfl, ?_⟩
      cases cb (k.increment H.n (ps.map (·.lms.h))).bytes
      · exact ⟨fun h => absurd rfl h, fun h => nomatch h⟩
      · exact ⟨fun _ => rfl, fun _ h => nomatch h⟩

/-- Every outcome of signing is one of: (a) an error before the callback - the callback was not invoked, nothing is
released, and for a key that does not even parse the aux buffer is untouched; (b) the callback was invoked exactly
once with the successor key and the signature is released iff it accepted. -/
theorem sign_outcomes (H : HashFn) (cfg : Config) (hwf : cfg.wellFormed = true) (msg sk : Bytes)
    (cb : Bytes → Bool) (aux : Option Bytes) :
    ∃ o, hssSign H cfg msg sk cb aux = .ok o ∧
      ((o.result = none ∧ o.trace = []) ∨
       (∃ k hs, RefKey.parse H.n sk = some k ∧ o.trace = [(k.increment H.n hs).bytes] ∧
          (o.result ≠ none ↔ cb (k.increment H.n hs).bytes = true))) :=
  have ⟨o, ho, h⟩ := sign_outcomes_of_key H cfg hwf msg sk cb aux
  ⟨o, ho, h.imp id fun ⟨k, _, hk, _, ht, hr⟩ => ⟨k, _, hk, ht, hr⟩⟩

/-- no signature is ever released without an accepted callback -/
theorem no_signature_without_callback (H : HashFn) (cfg : Config) (msg sk : Bytes) (cb : Bytes → Bool)
    (aux : Option Bytes) (o : SignOutcome) (h : hssSign H cfg msg sk cb aux = .ok o) (ht : o.trace = []) :
    o.result = none := by
  cases hr : o.result with
  | none => rfl
  | some sig =>
    obtain ⟨k, hs, _, htr, _⟩ := C04.signature_only_after_accepted_callback H cfg msg sk cb aux o sig h hr
    rw [ht] at htr
    simp at htr

/-- wrong length (truncated, extended, empty key): error, no callback, aux untouched -/
theorem wrong_length_key (H : HashFn) (cfg : Config) (msg sk : Bytes) (cb : Bytes → Bool) (aux : Option Bytes)
    (hl : sk.length ≠ 16 + H.n) : hssSign H cfg msg sk cb aux = .ok ⟨none, [], aux, []⟩ :=
  C04.wrong_length_key_fails_before_callback H cfg msg sk cb aux
    (by simpa [Generated.REF_IMPL_MAX_PRIVATE_KEY_SIZE, Generated.MAX_SEED_LEN] using hl)

/-- signing with a wiped / exhausted key: error, no callback, aux untouched -/
theorem wiped_key (H : HashFn) (cfg : Config) (msg : Bytes) (cb : Bytes → Bool) (aux : Option Bytes)
    (sk : Bytes) (k : RefKey) (hk : RefKey.parse H.n sk = some k) (hw : k.params = (RefKey.wiped H.n).params) :
    hssSign H cfg msg sk cb aux = .ok ⟨none, [], aux, []⟩ :=
  C04.unusable_parameters_fail_before_callback H cfg msg sk cb aux k hk
    (by rw [hw]; exact wiped_params_unusable cfg H.n)

/-- lifetime query on a key of the wrong length or with unusable parameter bytes: `Err`, not a panic -/
theorem lifetime_errors (H : HashFn) (cfg : Config) (sk : Bytes)
    (h : RefKey.parse H.n sk = none ∨ ∃ k, RefKey.parse H.n sk = some k ∧ paramsOfBytes cfg H.n k.params = none) :
    getLifetime H cfg sk = .ok none := by
  rcases h with h | ⟨k, hk, hp⟩
  · exact getLifetime_of_parse_none h cfg
  · rw [getLifetime_of_parse hk, expandPrivateKey_undecodable hp]
    rfl

/-- more than `maxLevels` levels (in particular more than eight) are refused -/
theorem keygen_too_many_levels (H : HashFn) (cfg : Config) (ps : List HssParam) (seed : Bytes) (aux : Option Bytes)
    (h : ps.length > cfg.maxLevels) : hssKeygen H cfg ps seed aux = .ok ⟨none, aux, []⟩ := by
  exact hssKeygen_of_not_fits (fun hf => Nat.not_le.mpr h hf.1) seed aux

/-- the empty parameter list is refused -/
theorem keygen_empty (H : HashFn) (cfg : Config) (seed : Bytes) (aux : Option Bytes) :
    hssKeygen H cfg [] seed aux = .ok ⟨none, aux, []⟩ := by
  -- `CompressedParameterSet::from(&[])` succeeds (eight end markers); it is `to` that refuses them
  have hfit : FitsBuild cfg [] ∧ sigLenSupported H.n [] = true :=
    ⟨⟨Nat.zero_le _, fun i hi => absurd hi (Nat.not_lt_zero _)⟩, by simp [sigLenSupported, hssSigLen]⟩
  exact hssKeygen_undecodable
    ((bytesOfParams_eq_ite cfg H.n [] (fun p hp => nomatch hp)).trans (by rw [if_pos hfit]; rfl))
    (paramsOfBytes_of_end_first cfg H.n (b := UInt8.ofNat Generated.PARAM_SET_END) (by decide)
      (List.replicate 7 (UInt8.ofNat Generated.PARAM_SET_END))) seed aux

example : Config.default.wellFormed = true := by decide
example : (Config.mk 3 [5, 10, 5] [8, 4, 2]).wellFormed = true := by decide

end Props.C11

#print axioms Props.C11.sign_never_panics
#print axioms Props.C11.sign_no_fault
#print axioms Props.C11.keygen_never_panics
#print axioms Props.C11.keygen_never_panics_of_types
#print axioms Props.C11.lifetime_never_panics
#print axioms Props.C11.trySign_never_panics
#print axioms Props.C11.sign_outcomes
#print axioms Props.C11.no_signature_without_callback
#print axioms Props.C11.wrong_length_key
#print axioms Props.C11.wiped_key
#print axioms Props.C11.lifetime_errors
#print axioms Props.C11.keygen_too_many_levels
#print axioms Props.C11.keygen_empty
#print axioms Props.C11.keygen_never_panics_of_type_lt
#print axioms Props.C11.sign_outcomes_of_key
