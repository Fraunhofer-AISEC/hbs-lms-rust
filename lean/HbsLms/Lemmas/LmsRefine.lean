/-
`Impl.lmotsCandidate` and `Impl.lmsVerify` with their parsers compute Algorithm 4b and Algorithms 6 / 6a of
`Spec.Rfc8554` on every input (C02). Each parser is characterised as `parse = some s ↔` conditions on the bytes, each
algorithm of the specification is read backwards for arbitrary tables, and the two are matched condition by condition.
The LM-OTS statement is put together in `Props.C02.lmots_level` from `lmotsKc_eq` and `lmotsKc_parses`.
-/
import HbsLms.Impl.Lms
import HbsLms.Lemmas.LmotsDigits
import HbsLms.Lemmas.SpecCodec

namespace Lemmas

open Impl Generated Spec.AppendixB

def libTables (n : Nat) : Spec.Tables := ⟨Params.lmotsGetFromType n, Params.lmsGetFromType⟩

/-! The root climb of `lms::verify` is the loop of Algorithm 6a step 4 over the slices of the path. -/

/-- the climb consumes `log2 nodeNum` path nodes, so that much fuel and path suffice -/
theorem Refine.climb_val (H : HashFn) (I path : Bytes) : ∀ (fuel nodeNum i : Nat) (tmp : Bytes),
    nodeNum.log2 < fuel → H.n * (i + nodeNum.log2) ≤ path.length →
    climb H I path fuel nodeNum i tmp =
      .ok (Spec.rootFrom H I ((List.range' i nodeNum.log2).map fun j => Bytes.slice path (H.n * j) H.n) nodeNum tmp) := by
  intro fuel
  induction fuel with
  | zero => intro _ _ _ hf; omega
  | succ f ih =>
    intro nodeNum i tmp hf hp
    rw [Nat.log2_def] at hf hp ⊢
    by_cases hgt : 2 ≤ nodeNum
    · rw [if_pos hgt] at hf hp ⊢
      have hs : H.n * i + H.n ≤ path.length :=
        Nat.le_trans (by rw [← Nat.mul_succ]; exact Nat.mul_le_mul_left _ (by omega)) hp
      have hgt' : nodeNum > 1 := hgt
      simp only [climb, hgt', if_true, P.slice_of_le hs, P.ok_bind]
      rw [ih _ _ _ (by omega) (by rw [Nat.add_right_comm, Nat.add_assoc]; exact hp),
        List.range'_succ, List.map_cons, Spec.rootFrom]
      simp only [Refine.u32str_eq, beq_iff_eq]
      rfl
    · have hle : ¬ nodeNum > 1 := by omega
      simp [climb, hle, hgt, P.pure_eq, Spec.rootFrom]

theorem Refine.climb_leaf (H : HashFn) (I path : Bytes) (h q : Nat) (tmp : Bytes) (hp : path.length = H.n * h) (hq : q < 2 ^ h) :
    climb H I path (h + 1) (2 ^ h + q) 0 tmp =
      .ok (Spec.rootFrom H I ((List.range h).map fun j => Bytes.slice path (H.n * j) H.n) (2 ^ h + q) tmp) := by
  have hl : (2 ^ h + q).log2 = h :=
    (Nat.log2_eq_iff (by have := Nat.pow_pos (n := h) (show 0 < 2 by omega); omega)).mpr
      ⟨by omega, by rw [Nat.pow_succ]; omega⟩
  rw [Refine.climb_val H I path _ _ 0 tmp (by omega) (by rw [hl, hp]; simp), hl, List.range_eq_range']

/-- the root climb never runs out of fuel and never slices outside the authentication path: `k` levels remain, `i` path
nodes were consumed -/
theorem climb_ok (H : HashFn) (I path : Bytes) (h : Nat) (hp : path.length = H.n * h) :
    ∀ (k fuel nodeNum i : Nat) (tmp : Bytes), nodeNum < 2 ^ (k + 1) → i + k = h → k < fuel →
      ∃ r, climb H I path fuel nodeNum i tmp = .ok r := by
  intro k fuel nodeNum i tmp hn hik hf
  have hlog : nodeNum.log2 ≤ k := by
    by_cases h0 : nodeNum = 0
    · subst h0; simp [Nat.log2_def]
    · exact Nat.le_of_lt_succ ((Nat.log2_lt h0).mpr hn)
  exact ⟨_, Refine.climb_val H I path fuel nodeNum i tmp (by omega)
    (by rw [hp]; exact Nat.mul_le_mul_left _ (by omega))⟩

namespace Refine

theorem lmotsCandidate_eq (H : HashFn) (sig : InMemLmotsSig) (I : Bytes) (q : Nat) (msg : Bytes)
    (hg : OtsRowGood H.n sig.param = true) (hd : sig.data.length = H.n * sig.param.p) :
    lmotsCandidate H sig I q msg = .ok
      (let Q := H.h (I ++ Bytes.u32be q ++ D_MESG ++ sig.randomizer ++ msg)
       let Qc := Q ++ Bytes.u16be (cksm H.n sig.param.w sig.param.ls Q)
       H.h (I ++ Bytes.u32be q ++ D_PBLC ++
        ((List.range sig.param.p).map fun i =>
          Spec.chainRfc H I q i (rfcCoef Qc i sig.param.w) (2 ^ sig.param.w - 1)
            (Bytes.slice sig.data (H.n * i) H.n)).flatten)) := by
  have hr := ots_good_props hg
  have hn := hr.n_le
  have hp : sig.param.p ≤ 8 * H.n + 16 := Nat.le_trans (Nat.le_mul_of_pos_right _ (FastVerify.w_pos hg)) hr.digits_le
  simp only [lmotsCandidate]
  have hQ := H.len_h (I ++ Bytes.u32be q ++ D_MESG ++ sig.randomizer ++ msg)
  generalize H.h (I ++ Bytes.u32be q ++ D_MESG ++ sig.randomizer ++ msg) = Q at hQ ⊢
  rw [append_checksum_eq hg Q hQ, P.ok_bind]
  have hqc : (Q ++ Bytes.u16be (cksm H.n sig.param.w sig.param.ls Q)).length = H.n + 2 := by
    rw [List.length_append, hQ, Bytes.u16be_length]
  -- step `i` pushes the chain from digit `i` to the end; neither the slice nor the push can fail
  rw [foldlM_range_append _ (fun i => Spec.chainRfc H I q i
        (rfcCoef (Q ++ Bytes.u16be (cksm H.n sig.param.w sig.param.ls Q)) i sig.param.w)
        (2 ^ sig.param.w - 1) (Bytes.slice sig.data (H.n * i) H.n))]
  · rfl
  · intro acc i hi hl
    have hs : H.n * i + H.n ≤ sig.data.length := by
      rw [hd, ← Nat.mul_succ]; exact Nat.mul_le_mul_left _ hi
    rw [Digits.coef_eq_rfcCoef hr.w_mem (by omega) (by rw [hqc]; exact coefIndex_lt hg hi), P.ok_bind,
      P.slice_of_le hs, P.ok_bind, chain_eq]
    exact P.pushCap_of_lt (Nat.lt_of_lt_of_le (hl ▸ hi) hr.p_le)

theorem lmots_parse_iff {n : Nat} {ob : Bytes} {s : InMemLmotsSig} :
    InMemLmotsSig.parse n ob = some s ↔
      ∃ prm, Params.lmotsGetFromType n (Bytes.toNat (Bytes.slice ob 0 4)) = some prm ∧
        4 + n + n * prm.p ≤ ob.length ∧ s = ⟨Bytes.slice ob 4 n, Bytes.slice ob (4 + n) (n * prm.p), prm⟩ := by
  simp only [InMemLmotsSig.parse, Option.bind_eq_bind, Option.bind_eq_some_iff, readAt_eq_some, pure,
    Option.some.injEq]
  constructor
  · rintro ⟨_, ⟨_, rfl⟩, prm, hp, _, ⟨_, rfl⟩, _, ⟨h, rfl⟩, rfl⟩
    exact ⟨prm, hp, h, rfl⟩
  · rintro ⟨prm, hp, h, rfl⟩
    exact ⟨_, ⟨by omega, rfl⟩, prm, hp, _, ⟨by omega, rfl⟩, _, ⟨h, rfl⟩, rfl⟩

theorem lmots_parse_slice {n : Nat} {d : Bytes} {op : LmotsParam}
    (hop : Params.lmotsGetFromType n (Bytes.toNat (Bytes.slice d 4 4)) = some op)
    (hlen : 8 + n * (op.p + 1) ≤ d.length) :
    InMemLmotsSig.parse n (Bytes.slice d 4 (4 + n * (op.p + 1))) =
      some ⟨Bytes.slice d 8 n, Bytes.slice d (8 + n) (n * op.p), op⟩ := by
  have hmm : n * (op.p + 1) = n * op.p + n := Nat.mul_succ _ _
  refine lmots_parse_iff.mpr ⟨op, by rw [Bytes.slice_slice _ _ _ (by omega)]; exact hop,
    by rw [Bytes.slice_length (by omega)]; omega, ?_⟩
  rw [Bytes.slice_slice _ _ _ (by omega), Bytes.slice_slice _ _ _ (by omega), ← Nat.add_assoc]

/-- length of an LMS signature with rows `op`, `lp`. Here and below offsets are written `4 + (4 + n * (p + 1))` and
`8 + (4 + n * (p + 1))`, nested as `Spec.lmsSigLen` and `Spec.lmsRootCandidate` write them (`4 + otsLen`, `8 + otsLen`). -/
def lmsLen (n : Nat) (op : LmotsParam) (lp : LmsParam) : Nat := 8 + (4 + n * (op.p + 1)) + n * lp.h

/-- what fixes the length of the LMS signature at the head of `d`: its two type codes are in the tables and the second
one can be read -/
structure LmsHead (n : Nat) (d : Bytes) (op : LmotsParam) (lp : LmsParam) : Prop where
  ots : Params.lmotsGetFromType n (Bytes.toNat (Bytes.slice d 4 4)) = some op
  lms : Params.lmsGetFromType (Bytes.toNat (Bytes.slice d (4 + (4 + n * (op.p + 1))) 4)) = some lp
  len : 8 + (4 + n * (op.p + 1)) ≤ d.length

/-- the fields `InMemLmsSig.parse` returns on `d` once the rows are `op`, `lp` -/
def lmsOf (n : Nat) (d : Bytes) (op : LmotsParam) (lp : LmsParam) : InMemLmsSig :=
  ⟨Bytes.toNat (Bytes.slice d 0 4), ⟨Bytes.slice d 8 n, Bytes.slice d (8 + n) (n * op.p), op⟩,
    Bytes.slice d (8 + (4 + n * (op.p + 1))) (n * lp.h), lp⟩

theorem lmsOf_len (n : Nat) (d : Bytes) (op : LmotsParam) (lp : LmsParam) :
    (lmsOf n d op lp).len n = lmsLen n op lp := by
  have : n * (op.p + 1) = n * op.p + n := Nat.mul_succ _ _
  simp only [lmsOf, lmsLen, InMemLmsSig.len, lms_signature_length, lmots_signature_length]; omega

theorem lms_parse_iff {n : Nat} {d : Bytes} {s : InMemLmsSig} :
    InMemLmsSig.parse n d = some s ↔
      ∃ op lp, LmsHead n d op lp ∧ lmsLen n op lp ≤ d.length ∧ Bytes.toNat (Bytes.slice d 0 4) < 2 ^ lp.h ∧
        s = lmsOf n d op lp := by
  -- the parser writes `1 + p` and `4 + x + 4`, as the Rust code does
  have hm : ∀ p, n * (1 + p) = n * (p + 1) := fun p => by rw [Nat.add_comm]
  have e : ∀ x, 4 + x + 4 = 8 + x := by omega
  simp only [InMemLmsSig.parse, Option.bind_eq_bind, Option.bind_eq_some_iff, readAt_eq_some, pure, hm, lmsLen]
  constructor
  · rintro ⟨_, ⟨_, rfl⟩, _, ⟨_, rfl⟩, op, hop, _, ⟨h1, rfl⟩, ots, hots, _, ⟨_, rfl⟩, lp, hlp, _, ⟨h2, rfl⟩, hq⟩
    split at hq
    · cases hq
    · rw [lmots_parse_slice hop (by omega)] at hots
      cases hots; cases hq
      exact ⟨op, lp, ⟨hop, hlp, by omega⟩, by omega, by omega, by rw [lmsOf, e]⟩
  · rintro ⟨op, lp, ⟨hop, hlp, _⟩, hl, hq, rfl⟩
    refine ⟨_, ⟨by omega, rfl⟩, _, ⟨by omega, rfl⟩, op, hop, _, ⟨by omega, rfl⟩, _,
      lmots_parse_slice hop (by omega), _, ⟨by omega, rfl⟩, lp, hlp, _, ⟨by omega, rfl⟩, ?_⟩
    rw [if_neg (by omega), lmsOf, e]

theorem pk_parse_iff {n : Nat} {kb : Bytes} {key : InMemLmsPk} :
    InMemLmsPk.parse n kb = some key ↔
      ∃ lp op, 24 + n ≤ kb.length ∧ Params.lmsGetFromType (Bytes.toNat (Bytes.slice kb 0 4)) = some lp ∧
        Params.lmotsGetFromType n (Bytes.toNat (Bytes.slice kb 4 4)) = some op ∧
        key = ⟨Bytes.slice kb 24 n, Bytes.slice kb 8 16, op, lp, kb.take (24 + n)⟩ := by
  simp only [InMemLmsPk.parse, Option.bind_eq_bind, Option.bind_eq_some_iff, readAt_eq_some, pure,
    Option.some.injEq]
  constructor
  · rintro ⟨_, ⟨_, rfl⟩, lp, hlp, _, ⟨_, rfl⟩, op, hop, _, ⟨_, rfl⟩, _, ⟨h, rfl⟩, rfl⟩
    exact ⟨lp, op, h, hlp, hop, rfl⟩
  · rintro ⟨lp, op, h, hlp, hop, rfl⟩
    exact ⟨_, ⟨by omega, rfl⟩, lp, hlp, _, ⟨by omega, rfl⟩, op, hop, _, ⟨by omega, rfl⟩, _, ⟨h, rfl⟩, rfl⟩

theorem row_eq_iff {α : Type} {f : Nat → Option α} {typeId : α → Nat} (hid : ∀ {t p}, f t = some p → typeId p = t)
    {t1 t2 : Nat} {p1 p2 : α} (h1 : f t1 = some p1) (h2 : f t2 = some p2) : p1 = p2 ↔ t1 = t2 :=
  ⟨fun h => by rw [← hid h1, ← hid h2, h], fun h => by subst h; rw [h1] at h2; exact Option.some.inj h2⟩

/-! The specification read backwards, guard by guard in the order of the RFC's steps: a guard `if c then none else …`
that let a value through gives `¬ c` (`Option.ite_none_left_eq_some`; `ite_false_eq_true` for the Boolean verdicts), a
table lookup gives its row. -/

theorem ite_false_eq_true {c : Prop} [Decidable c] {b : Bool} : (if c then false else b) = true ↔ ¬ c ∧ b = true := by
  by_cases h : c
  · rw [if_pos h]; exact ⟨fun h' => Bool.noConfusion h', fun h' => absurd h h'.1⟩
  · rw [if_neg h]; exact ⟨fun h' => ⟨h, h'⟩, fun h' => h'.2⟩

theorem lmotsKc_inv {H : HashFn} {T : Spec.Tables} {I : Bytes} {q : Nat} {msg ob kc : Bytes}
    (h : Spec.lmotsKc H T I q msg ob = some kc) :
    ∃ prm, T.ots (u32 ob 0) = some prm ∧ ob.length = 4 + H.n * (prm.p + 1) := by
  simp only [Spec.lmotsKc] at h
  -- step 2a
  rw [Option.ite_none_left_eq_some] at h
  -- steps 2b, 2c
  cases hprm : T.ots (u32 ob 0) with
  | none => rw [hprm] at h; exact nomatch h.2
  | some prm =>
    -- step 2d
    rw [hprm, Option.ite_none_left_eq_some] at h
    exact ⟨prm, rfl, Decidable.not_not.mp h.2.1⟩

theorem lmsSigLen_inv {n : Nat} {T : Spec.Tables} {d : Bytes} {sl : Nat} (h : Spec.lmsSigLen n T d = some sl) :
    ∃ op lp, T.ots (u32 d 4) = some op ∧ 8 + (4 + n * (op.p + 1)) ≤ d.length ∧
      T.lms (u32 d (4 + (4 + n * (op.p + 1)))) = some lp ∧ sl = 8 + (4 + n * (op.p + 1)) + n * lp.h := by
  simp only [Spec.lmsSigLen] at h
  rw [Option.ite_none_left_eq_some] at h
  cases hop : T.ots (u32 d 4) with
  | none => rw [hop] at h; exact nomatch h.2
  | some op =>
    rw [hop, Option.ite_none_left_eq_some] at h
    cases hlp : T.lms (u32 d (4 + (4 + n * (op.p + 1)))) with
    | none => rw [hlp] at h; exact nomatch h.2.2
    | some lp =>
      rw [hlp] at h
      exact ⟨op, lp, rfl, Nat.le_of_not_lt h.2.1, hlp, (Option.some.inj h.2.2).symm⟩

theorem lmsRootCandidate_inv {H : HashFn} {T : Spec.Tables} {msg sig I : Bytes} {pubtype otsPubtype : Nat} {Tc : Bytes}
    (h : Spec.lmsRootCandidate H T msg sig I pubtype otsPubtype = some Tc) :
    ∃ op lp, u32 sig 4 = otsPubtype ∧ T.ots (u32 sig 4) = some op ∧
      u32 sig (4 + (4 + H.n * (op.p + 1))) = pubtype ∧ T.lms (u32 sig (4 + (4 + H.n * (op.p + 1)))) = some lp ∧
      u32 sig 0 < 2 ^ lp.h ∧ sig.length = 8 + (4 + H.n * (op.p + 1)) + H.n * lp.h := by
  simp only [Spec.lmsRootCandidate] at h
  -- steps 1 and 2b
  rw [Option.ite_none_left_eq_some, Option.ite_none_left_eq_some] at h
  obtain ⟨-, c2, h⟩ := h
  -- step 2c
  cases hop : T.ots (u32 sig 4) with
  | none => rw [hop] at h; cases h
  | some op =>
    -- steps 2d and 2g
    rw [hop, Option.ite_none_left_eq_some, Option.ite_none_left_eq_some] at h
    obtain ⟨-, c4, h⟩ := h
    -- step 2h
    cases hlp : T.lms (u32 sig (4 + (4 + H.n * (op.p + 1)))) with
    | none => rw [hlp] at h; cases h
    | some lp =>
      -- step 2i
      rw [hlp, Option.ite_none_left_eq_some] at h
      exact ⟨op, lp, Decidable.not_not.mp c2, rfl, Decidable.not_not.mp c4, hlp, Nat.lt_of_not_le fun c => h.1 (Or.inl c),
        Decidable.not_not.mp fun c => h.1 (Or.inr c)⟩

theorem lmsValid_inv {H : HashFn} {T : Spec.Tables} {msg d kb : Bytes} (h : Spec.lmsValid H T msg d kb = true) :
    kb.length = 24 + H.n ∧ (∃ klp, T.lms (u32 kb 0) = some klp) ∧
      ∃ Tc, Spec.lmsRootCandidate H T msg d (Spec.bytesAt kb 8 16) (u32 kb 0) (u32 kb 4) = some Tc := by
  simp only [Spec.lmsValid] at h
  -- step 1
  rw [ite_false_eq_true] at h
  -- steps 2b, 2c
  cases hklp : T.lms (u32 kb 0) with
  | none => rw [hklp] at h; exact nomatch h.2
  | some klp =>
    -- step 2d
    rw [hklp, ite_false_eq_true] at h
    cases hTc : Spec.lmsRootCandidate H T msg d (Spec.bytesAt kb 8 16) (u32 kb 0) (u32 kb 4) with
    | none => rw [hTc] at h; exact nomatch h.2.2
    | some Tc => exact ⟨Decidable.not_not.mp h.2.1, ⟨klp, rfl⟩, Tc, rfl⟩

/-- Algorithm 6a steps 2b and 2g, for any tables -/
theorem lmsValid_types (H : HashFn) (T : Spec.Tables) (msg d kb : Bytes) (h : Spec.lmsValid H T msg d kb = true) :
    u32 d 4 = u32 kb 4 ∧ ∃ op, T.ots (u32 d 4) = some op ∧ u32 d (4 + (4 + H.n * (op.p + 1))) = u32 kb 0 := by
  obtain ⟨_, _, _, hTc⟩ := lmsValid_inv h
  obtain ⟨op, _, h1, h2, h3, _⟩ := lmsRootCandidate_inv hTc
  exact ⟨h1, op, h2, h3⟩

/-- Algorithm 6 read forwards: once lengths and type codes are right, the verdict is the root comparison -/
theorem lmsValid_eq_of {H : HashFn} {T : Spec.Tables} {msg d kb : Bytes} {op : LmotsParam} {lp : LmsParam}
    (hkl : kb.length = 24 + H.n) (hlp : T.lms (u32 kb 0) = some lp) (hop : T.ots (u32 kb 4) = some op)
    (h1 : u32 d 4 = u32 kb 4) (h2 : u32 d (4 + (4 + H.n * (op.p + 1))) = u32 kb 0)
    (hl : d.length = 8 + (4 + H.n * (op.p + 1)) + H.n * lp.h) (hq : u32 d 0 < 2 ^ lp.h) :
    Spec.lmsValid H T msg d kb =
      match Spec.lmotsKc H T (Spec.bytesAt kb 8 16) (u32 d 0) msg (Spec.bytesAt d 4 (4 + H.n * (op.p + 1))) with
      | none => false
      | some Kc =>
        Spec.rootFrom H (Spec.bytesAt kb 8 16)
          ((List.range lp.h).map fun i => Spec.bytesAt d (8 + (4 + H.n * (op.p + 1)) + H.n * i) H.n)
          (2 ^ lp.h + u32 d 0) (H.h (Spec.bytesAt kb 8 16 ++ Spec.u32str (2 ^ lp.h + u32 d 0) ++ Spec.D_LEAF ++ Kc))
          == Spec.bytesAt kb 24 H.n := by
  -- the length guards: Algorithm 6 steps 1 and 2d, Algorithm 6a steps 1, 2d and 2i
  have k1 : ¬ kb.length < 8 := by omega
  have k2 : ¬ kb.length ≠ 24 + H.n := fun c => c hkl
  have s1 : ¬ d.length < 8 := by omega
  have s2 : ¬ d.length < 8 + (4 + H.n * (op.p + 1)) := by omega
  have s3 : ¬ (u32 d 0 ≥ 2 ^ lp.h ∨ d.length ≠ 8 + (4 + H.n * (op.p + 1)) + H.n * lp.h) := by omega
  -- the type comparisons of steps 2b and 2g hold by `h1`, `h2`
  simp only [Spec.lmsValid, Spec.lmsRootCandidate, k1, k2, s1, s2, s3, hlp, h1, hop, h2, ne_eq, not_true_eq_false,
    if_false]
  cases Spec.lmotsKc H T (Spec.bytesAt kb 8 16) (u32 d 0) msg (Spec.bytesAt d 4 (4 + H.n * (op.p + 1))) <;> rfl

theorem lmotsKc_eq (H : HashFn) (I : Bytes) (q : Nat) (msg ob : Bytes) (s : InMemLmotsSig)
    (hs : InMemLmotsSig.parse H.n ob = some s) (hl : ob.length = 4 + H.n * (s.param.p + 1)) :
    (lmotsCandidate H s I q msg).map some = .ok (Spec.lmotsKc H (libTables H.n) I q msg ob) := by
  obtain ⟨prm, hprm, hlen, rfl⟩ := lmots_parse_iff.mp hs
  rw [lmotsCandidate_eq H _ I q msg (otsRowGood_of_getFromType hprm) (Bytes.slice_length (by omega)), P.map_ok]
  refine congrArg Except.ok (Eq.symm ?_)
  have hT : (libTables H.n).ots (u32 ob 0) = some prm := by rw [u32_eq (by omega)]; exact hprm
  simp only [Spec.lmotsKc, hT, if_neg (show ¬ ob.length < 4 by omega),
    if_neg (show ¬ ob.length ≠ _ from fun h => h hl), u32str_eq, u16str_eq]
  congr 4
  refine List.map_congr_left fun i hi => ?_
  rw [Bytes.slice_slice _ _ _ (by rw [← Nat.mul_succ]; exact Nat.mul_le_mul_left _ (List.mem_range.mp hi)),
    Nat.mul_succ, Nat.add_comm (H.n * i), Nat.add_assoc]
  rfl

theorem lmotsKc_parses (H : HashFn) (I : Bytes) (q : Nat) (msg ob kc : Bytes)
    (h : Spec.lmotsKc H (libTables H.n) I q msg ob = some kc) :
    ∃ s, InMemLmotsSig.parse H.n ob = some s ∧ ob.length = 4 + H.n * (s.param.p + 1) := by
  obtain ⟨prm, hprm, hl⟩ := lmotsKc_inv h
  have : H.n * (prm.p + 1) = H.n * prm.p + H.n := Nat.mul_succ _ _
  rw [u32_eq (by omega)] at hprm
  exact ⟨_, lmots_parse_iff.mpr ⟨prm, hprm, by omega, rfl⟩, hl⟩

theorem lmsVerify_eq (H : HashFn) (msg d kb : Bytes) (s : InMemLmsSig) (key : InMemLmsPk)
    (hs : InMemLmsSig.parse H.n d = some s) (hd : d.length = s.len H.n)
    (hk : InMemLmsPk.parse H.n kb = some key) (hkl : kb.length = 24 + H.n) :
    lmsVerify H s key msg = .ok (Spec.lmsValid H (libTables H.n) msg d kb) := by
  obtain ⟨op, lp, ⟨hop, hlp, _⟩, _, hq, rfl⟩ := lms_parse_iff.mp hs
  obtain ⟨klp, kop, _, hklp, hkop, rfl⟩ := pk_parse_iff.mp hk
  rw [lmsOf_len, lmsLen] at hd
  have hmm : H.n * (op.p + 1) = H.n * op.p + H.n := Nat.mul_succ _ _
  have e0 : u32 d 0 = _ := u32_eq (by omega)
  have e1 : u32 d 4 = _ := u32_eq (by omega)
  have e2 : u32 d (4 + (4 + H.n * (op.p + 1))) = _ := u32_eq (by omega)
  have e3 : u32 kb 0 = _ := u32_eq (by omega)
  have e4 : u32 kb 4 = _ := u32_eq (by omega)
  by_cases hty : u32 d 4 = u32 kb 4 ∧ u32 d (4 + (4 + H.n * (op.p + 1))) = u32 kb 0
  · -- same rows: `lmsValid_eq_of` discharges the guards of the specification; what is left on both sides is the LM-OTS
    -- candidate (`lmotsKc_eq`), the leaf hash, and the climb (`climb_leaf`) over the same slices of the path (`hpath`)
    obtain ⟨rfl⟩ := (row_eq_iff lmotsGetFromType_typeId hop hkop).mpr (by rw [← e1, ← e4]; exact hty.1)
    obtain ⟨rfl⟩ := (row_eq_iff lmsGetFromType_typeId hlp hklp).mpr (by rw [← e2, ← e3]; exact hty.2)
    rw [lmsValid_eq_of (op := op) (lp := lp) hkl (by rw [e3]; exact hklp) (by rw [e4]; exact hkop) hty.1 hty.2 hd
      (by rw [e0]; exact hq)]
    obtain ⟨kc, hkc1, hkc2⟩ := P.map_eq_ok.mp (lmotsKc_eq H (Bytes.slice kb 8 16) (Bytes.toNat (Bytes.slice d 0 4)) msg
      _ _ (lmots_parse_slice hop (by omega)) (Bytes.slice_length (by omega)))
    have hpath : ∀ i ∈ List.range lp.h,
        Bytes.slice (Bytes.slice d (8 + (4 + H.n * (op.p + 1))) (H.n * lp.h)) (H.n * i) H.n =
        Spec.bytesAt d (8 + (4 + H.n * (op.p + 1)) + H.n * i) H.n := fun i hi =>
      Bytes.slice_slice _ _ _ (by rw [← Nat.mul_succ]; exact Nat.mul_le_mul_left _ (List.mem_range.mp hi))
    have hpl : (Bytes.slice d (8 + (4 + H.n * (op.p + 1))) (H.n * lp.h)).length = H.n * lp.h :=
      Bytes.slice_length (by omega)
    simp only [e0, bytesAt_eq, ← hkc2, lmsVerify, lmsCandidate, lmsOf, bne_self_eq_false, Bool.or_self,
      Bool.false_eq_true, if_false, Nat.not_le.mpr hq, hkc1, P.ok_bind,
      climb_leaf H _ _ lp.h _ _ hpl hq, List.map_congr_left hpath, P.pure_eq, u32str_eq]
    rfl
  · -- different rows: the model compares the rows, the specification the type codes
    have hne : (op != kop || lp != klp) = true := by
      rw [Bool.or_eq_true, bne_iff_ne, bne_iff_ne]
      exact Decidable.not_and_iff_not_or_not.mp fun ⟨a, b⟩ =>
        hty ⟨by rw [e1, e4]; exact (row_eq_iff lmotsGetFromType_typeId hop hkop).mp a,
          by rw [e2, e3]; exact (row_eq_iff lmsGetFromType_typeId hlp hklp).mp b⟩
    have hinv : Spec.lmsValid H (libTables H.n) msg d kb = false := Bool.eq_false_iff.mpr fun hv => by
      obtain ⟨h1, op', hop', h2⟩ := lmsValid_types H _ msg d kb hv
      rw [e1] at hop'; cases hop.symm.trans hop'
      exact hty ⟨h1, h2⟩
    simp only [lmsVerify, lmsOf, hne, if_true, hinv, P.pure_eq]

theorem lmsValid_parses (H : HashFn) (msg d kb : Bytes) (h : Spec.lmsValid H (libTables H.n) msg d kb = true) :
    (∃ s, InMemLmsSig.parse H.n d = some s ∧ d.length = s.len H.n) ∧
    (∃ key, InMemLmsPk.parse H.n kb = some key) ∧ kb.length = 24 + H.n := by
  obtain ⟨hkl, ⟨klp, hklp⟩, _, hTc⟩ := lmsValid_inv h
  obtain ⟨op, lp, h1, hop, h2, hlp, hq, hl⟩ := lmsRootCandidate_inv hTc
  simp (disch := omega) only [u32_eq] at hklp hq hop hlp h1
  exact ⟨⟨_, lms_parse_iff.mpr ⟨op, lp, ⟨hop, hlp, by omega⟩, by unfold lmsLen; omega, hq, rfl⟩,
      by rw [lmsOf_len, lmsLen]; exact hl⟩,
    ⟨_, pk_parse_iff.mpr ⟨klp, op, by omega, hklp, h1 ▸ hop, rfl⟩⟩, hkl⟩

theorem lmsValid_false_of_sig (H : HashFn) (msg d kb : Bytes)
    (h : ∀ s, InMemLmsSig.parse H.n d = some s → d.length ≠ s.len H.n) :
    Spec.lmsValid H (libTables H.n) msg d kb = false :=
  Bool.eq_false_iff.mpr fun hv => by
    obtain ⟨⟨s, hs, hl⟩, _⟩ := lmsValid_parses H msg d kb hv
    exact h s hs hl

theorem lmsValid_false_of_key (H : HashFn) (msg d kb : Bytes)
    (h : InMemLmsPk.parse H.n kb = none ∨ kb.length ≠ 24 + H.n) :
    Spec.lmsValid H (libTables H.n) msg d kb = false :=
  Bool.eq_false_iff.mpr fun hv => by
    obtain ⟨_, ⟨key, hk⟩, hl⟩ := lmsValid_parses H msg d kb hv
    exact h.elim (fun h0 => by rw [hk] at h0; cases h0) (fun h0 => h0 hl)

/-- parsing both byte strings (rejecting left-over bytes) and running `lms::verify::verify` is Algorithm 6, on every
input -/
theorem lms_refine (H : HashFn) (msg d kb : Bytes) :
    (match InMemLmsSig.parse H.n d, InMemLmsPk.parse H.n kb with
     | some s, some key =>
       if d.length = s.len H.n ∧ kb.length = 24 + H.n then lmsVerify H s key msg else pure false
     | _, _ => pure false) = .ok (Spec.lmsValid H (libTables H.n) msg d kb) := by
  cases hs : InMemLmsSig.parse H.n d with
  | none => rw [lmsValid_false_of_sig H msg d kb fun s h => by rw [hs] at h; cases h]; rfl
  | some s =>
    cases hk : InMemLmsPk.parse H.n kb with
    | none => rw [lmsValid_false_of_key H msg d kb (Or.inl hk)]; rfl
    | some key =>
      simp only []
      by_cases hc : d.length = s.len H.n ∧ kb.length = 24 + H.n
      · rw [if_pos hc]
        exact lmsVerify_eq H msg d kb s key hs hc.1 hk hc.2
      · rw [if_neg hc]
        by_cases h1 : d.length = s.len H.n
        · rw [lmsValid_false_of_key H msg d kb (Or.inr fun h2 => hc ⟨h1, h2⟩)]; rfl
        · rw [lmsValid_false_of_sig H msg d kb fun s' h => by rw [hs] at h; cases h; exact h1]; rfl

end Refine

end Lemmas
