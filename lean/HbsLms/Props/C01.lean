/-
C01 - every signature the library releases verifies under the matching public key (completeness).
All statements are for an arbitrary hash function `H : HashFn` (a function with a fixed output length):
no cryptographic assumption is used. They speak of `hssVerify`; for the library's three verification entry points the
same follows with `Props.C14.released_signature_fits` (a released signature fits the `Signature` object) and
`Props.C14.verifyEntry_of_fits` (on such a signature every entry point returns what `hssVerify` returns).
-/
import HbsLms.Lemmas.Layout
import HbsLms.Lemmas.KeygenRefine
import HbsLms.Lemmas.PrivKey

namespace Props.C01

open Impl Lemmas Lemmas.Complete

/-- Hash chains compose: `a` steps from 0, then from step `a` up to step `m`, is `m` steps from 0. -/
theorem chain_compose (H : HashFn) (I qb : Bytes) (i : Nat) (x : Bytes) (a m : Nat) (h : a ≤ m) :
    chain H I qb i (chain H I qb i x 0 a) a m = chain H I qb i x 0 m :=
  Lemmas.Complete.chain_compose H I qb i x a m h

/-- LM-OTS completeness: whatever `lmotsSign` returns parses back with the same parameter row, and the verifier's
public-key candidate from it is the LM-OTS public key of that leaf. -/
theorem lmots_complete (H : HashFn) (I : Bytes) (q : Nat) (seed : Bytes) (prm : LmotsParam) (C msg sigBytes : Bytes)
    (hg : OtsRowGood H.n prm = true) (ht : Params.lmotsGetFromType H.n prm.typeId = some prm) (hC : C.length = H.n)
    (hs : lmotsSign H I (Bytes.u32be q) seed prm C msg = .ok sigBytes) :
    ∃ s, InMemLmotsSig.parse H.n sigBytes = some s ∧ s.param = prm ∧
      lmotsCandidate H s I q msg
        = .ok (lmotsPublicKey H I (Bytes.u32be q) prm (lmotsPrivateKey H I (Bytes.u32be q) seed prm)) :=
  Lemmas.Complete.lmots_complete H I q seed prm C msg sigBytes hg ht hC hs

/-- `lmotsSign` itself never faults for a good row and a randomizer of the hash length. -/
theorem lmotsSign_total (H : HashFn) (I qb seed : Bytes) (prm : LmotsParam) (C msg : Bytes)
    (hg : OtsRowGood H.n prm = true) (hC : C.length = H.n) : ∃ sig, lmotsSign H I qb seed prm C msg = .ok sig :=
  ⟨_, lmotsSign_eq H I qb seed prm C msg hg hC⟩

/-- Without a cache the library's tree-node computation is the plain recursive Merkle tree
`T d r = H(I ‖ u32 r ‖ D_INTR ‖ T (d-1) (2r) ‖ T (d-1) (2r+1))`, `T 0 r = leafNode r`, for every node `r` on level `j ≤ h`. -/
theorem treeNode_is_T (H : HashFn) (k : LmsKey) (r j : Nat) (hj : j ≤ k.lms.h) (hlo : 2 ^ j ≤ r) (hhi : r < 2 ^ (j + 1)) :
    treeNode H k r none = (T H k (k.lms.h - j) r, none) := treeNode_none H k r j hj hlo hhi

/-- The authentication path collected by `lmsSign` (no cache) is the list of siblings `T i ((2^h+q)/2^i xor 1)`. -/
theorem authPath_is_siblings (H : HashFn) (k : LmsKey) (q : Nat) (hq : q < 2 ^ k.lms.h) :
    (List.range k.lms.h).foldl (fun (acc : List Bytes × Option ExpAux) i =>
      let (v, a) := treeNode H k (((2 ^ k.lms.h + q) / 2 ^ i) ^^^ 1) acc.2
      (acc.1 ++ [v], a)) ([], none)
    = ((List.range k.lms.h).map fun i => T H k i (((2 ^ k.lms.h + q) / 2 ^ i) ^^^ 1), none) :=
  authPath_fold H k q hq

/-- Merkle completeness: climbing from the leaf value `T[2^h + q]` along the authentication path reaches the
root `T[1]`. -/
theorem climb_reaches_root (H : HashFn) (k : LmsKey) (q : Nat) (hq : q < 2 ^ k.lms.h) :
    climb H k.I ((List.range k.lms.h).map fun i => T H k i (((2 ^ k.lms.h + q) / 2 ^ i) ^^^ 1)).flatten
      (k.lms.h + 1) (2 ^ k.lms.h + q) 0 (T H k 0 (2 ^ k.lms.h + q)) = .ok (T H k k.lms.h 1) :=
  Lemmas.Complete.climb_reaches_root H k q hq

/-- LMS completeness, for a key whose parameters are table rows and whose identifier has 16 bytes: whatever `lmsSign`
(no cache) releases parses, the serialised public key parses, and the signature verifies under it. -/
theorem lms_complete (H : HashFn) (cfg : Config) (k : LmsKey) (q : Nat) (msg C sig : Bytes) (a : Option ExpAux)
    (hots : Params.lmotsGetFromType H.n k.ots.typeId = some k.ots)
    (hlms : Params.lmsGetFromType k.lms.typeId = some k.lms) (hI : k.I.length = 16) (hC : C.length = H.n)
    (hs : lmsSign H cfg k q msg C none = .ok (some (sig, a))) :
    ∃ s p, InMemLmsSig.parse H.n sig = some s ∧
      InMemLmsPk.parse H.n (lmsPublicKeyBytes k (treeNode H k 1 none).1) = some p ∧
      lmsVerify H s p msg = .ok true :=
  Lemmas.Complete.lms_complete H cfg k q msg C sig a ⟨hots, hlms, hI⟩ hC hs

/-- Existence: under the three capacity conditions `lmsSign` does release a signature for every leaf of the tree (so
`lms_complete` is not vacuous). -/
theorem lmsSign_releases (H : HashFn) (cfg : Config) (k : LmsKey) (q : Nat) (msg C : Bytes)
    (hots : Params.lmotsGetFromType H.n k.ots.typeId = some k.ots) (hC : C.length = H.n) (hq : q < 2 ^ k.lms.h)
    (h1 : k.ots.p ≤ cfg.maxChains) (h2 : k.lms.h ≤ cfg.maxTreeHeight)
    (h3 : Generated.lms_signature_length H.n k.ots.p k.lms.h ≤ cfg.maxLmsSigLen) :
    ∃ sig, lmsSign H cfg k q msg C none = .ok (some (sig, none)) :=
  ⟨_, lmsSign_none_eq H cfg k q msg C (otsRowGood_of_getFromType hots) hC hq h1 h2 h3⟩

/-- The signed public keys built by `expandPrivateKey` (no aux data) form a chain: level 0 is the tree derived
from the blob's seed, every level signs the serialised public key of the next one with a leaf inside its tree, and
all keys carry table parameters. -/
theorem expandPrivateKey_chain {H : HashFn} {cfg : Config} {k : RefKey} {ex : Expanded} {e : Option ExpAux}
    (h : expandPrivateKey H cfg k none = .ok (some (ex, e))) :
    ∃ ps p0 q0 children, paramsOfBytes cfg H.n k.params = some ps ∧ ps.head? = some p0 ∧ e = none ∧
      ex = ⟨⟨rootKey H k.seed p0, q0⟩ :: children, children.map (fun c => pkBytes H c.key),
            sigsOf H ⟨rootKey H k.seed p0, q0⟩ children⟩ ∧
      children.length + 1 = ps.length ∧ (∀ c ∈ children, GoodKey H.n c.key) ∧
      qsOk ⟨rootKey H k.seed p0, q0⟩ children := by
  obtain ⟨p0, rest, hps, he, hex, hqs⟩ := expandPrivateKey_closed h
  exact ⟨_, p0, _, _, hps, rfl, he, hex, congrArg (· + 1) (Layout.lowerLevels_length H k.seed p0 rest k.counter),
    (levels_good hps k.seed k.counter).2, hqs⟩

/-- The verifier accepts every such chain followed by a signature of the bottom level: the public key
serialised inside signed public key `i` is the key that verifies level `i+1`. -/
theorem hssVerify_chain (H : HashFn) (cfg : Config) (top : Level) (children : List Level) (msg C : Bytes)
    (gt : GoodKey H.n top.key) (hall : ∀ c ∈ children, GoodKey H.n c.key) (hqs : qsOk top children)
    (hC : C.length = H.n) (hqb : (lastLevel top children).q < 2 ^ (lastLevel top children).key.lms.h)
    (hL : children.length + 1 ≤ cfg.maxLevels) (hL32 : children.length + 1 < 2 ^ 32) :
    hssVerify H cfg msg
      (Bytes.u32be children.length ++ spkBytes H top children ++
        lmsSigBytes H (lastLevel top children).key (lastLevel top children).q msg C)
      (Bytes.u32be (children.length + 1) ++ pkBytes H top.key) = .ok true :=
  Lemmas.Complete.hssVerify_chain H cfg top children msg C gt hall hqs hC hqb hL hL32

/-- HSS completeness on the parsed key: what `signPrepare` (no aux data) assembles for the parameter bytes and seed of a
generated key, at any counter `c`, verifies under the generated public key. -/
theorem hss_complete_parsed (H : HashFn) (cfg : Config) (ps0 : List HssParam) (seed msg : Bytes) (c : Nat)
    (skb vk : Bytes) (a0 : Option Bytes) (r0 : Bytes) (pb : Bytes) (hs : List Nat) (sig : Bytes) (a : Option Bytes)
    (r : Bytes)
    (hk : hssKeygen H cfg ps0 seed none = .ok ⟨some (skb, vk), a0, r0⟩)
    (hpb : bytesOfParams cfg H.n ps0 = .ok (some pb))
    (hsg : signPrepare H cfg msg ⟨c, pb, seed⟩ none = .ok (.ready hs sig a r)) :
    hssVerify H cfg msg sig vk = .ok true := by
  obtain ⟨pb', ps, p0, hpb', -, hps, hp0, rfl⟩ := KeygenRefine.hssKeygen_none_inv hk
  cases hpb.symm.trans hpb'
  -- key generation and signing decode the same parameter bytes, so they speak of the same top tree
  obtain ⟨ps', p0', hps', hp0', hv⟩ := Layout.signPrepare_verifies hsg
  cases hps.symm.trans hps'
  cases hp0.symm.trans hp0'
  exact hv

/-- the key blob of `hssKeygen` with its counter replaced by `c` -/
def blobWithCounter (skb : Bytes) (c : Nat) : Bytes := Bytes.u64be c ++ skb.drop 8

/-- C01, end to end on byte strings: if `hssKeygen` (no aux data) returns `(sk, vk)` and `hssSign` (no aux data), run
on `sk` with its 8 counter bytes set to any value `c`, releases a signature, then `hssVerify` accepts that signature for
the same message under `vk`. -/
theorem released_signature_verifies (H : HashFn) (cfg : Config) (ps0 : List HssParam) (seed msg : Bytes) (c : Nat)
    (cb : Bytes → Bool) (skb vk : Bytes) (a0 : Option Bytes) (r0 : Bytes) (o : SignOutcome) (sig : Bytes)
    (hseed : seed.length = H.n)
    (hk : hssKeygen H cfg ps0 seed none = .ok ⟨some (skb, vk), a0, r0⟩)
    (hsign : hssSign H cfg msg (blobWithCounter skb c) cb none = .ok o)
    (hres : o.result = some sig) :
    hssVerify H cfg msg sig vk = .ok true := by
  obtain ⟨pb, ps, p0, hpb, rfl, -⟩ := KeygenRefine.hssKeygen_none_inv hk
  obtain ⟨k, hs, a, r, hparse, hprep, -⟩ := hssSign_released hsign hres
  -- the parsed key has the parameter bytes and the seed of the generated key
  obtain ⟨hp, hsd⟩ := RefKey.parse_counter_replaced (k0 := ⟨0, pb, seed⟩) hseed hparse
  obtain ⟨kc, kp, ks⟩ := k
  cases hp
  cases hsd
  exact hss_complete_parsed H cfg ps0 seed msg kc _ vk a0 r0 pb hs sig a r hk hpb hprep

end Props.C01

#print axioms Props.C01.chain_compose
#print axioms Props.C01.lmots_complete
#print axioms Props.C01.lmotsSign_total
#print axioms Props.C01.treeNode_is_T
#print axioms Props.C01.authPath_is_siblings
#print axioms Props.C01.climb_reaches_root
#print axioms Props.C01.lms_complete
#print axioms Props.C01.lmsSign_releases
#print axioms Props.C01.expandPrivateKey_chain
#print axioms Props.C01.hssVerify_chain
#print axioms Props.C01.hss_complete_parsed
#print axioms Props.C01.released_signature_verifies
